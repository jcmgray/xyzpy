/-!
Last-good definitions of the C16 extraction anchors (harness/anchors_script.py):
the sixteen script-template constants of `xyzpy/gen/cropping.py` and the decision logic of `gen_cluster_script`
(which ids, `run_start`/`run_stop`, which templates are concatenated, the single-mode "compute the ids in the job"
override, the PBS size-1 rewrite).  These defaults describe the repaired tree (D9 fixed: no stray `]` in
`tplSgeGrowPartial`).

Template text is written as a string literal and expanded to a `List Char` by `chars!` while the file is elaborated:
evaluating `String.toList` on a 500-character literal costs the Lean 4.33 kernel about half a minute (strings are UTF-8
byte arrays), a character list costs nothing.
-/
open Lean in
/-- `chars! "abc"` = `['a', 'b', 'c']` -/
macro "chars!" s:str : term => do
  let elems : Array (TSyntax `term) :=
    (s.getString.toList.map fun c => (⟨Syntax.mkCharLit c⟩ : TSyntax `term)).toArray
  `([$elems,*])

namespace Gen.Default

def tplSgeHeader : List Char := chars! "#!/bin/bash -l\n#$ -S /bin/bash\n#$ -N {name}\n#$ -l h_rt={hours}:{minutes}:{seconds},mem={gigabytes}G\n#$ -l tmpfs={temp_gigabytes}G\nmkdir -p {output_directory}\n#$ -wd {output_directory}\n#$ -pe {pe} {num_procs}\n{header_options}\n"
def tplSgeArrayHeader : List Char := chars! "#$ -t {run_start}-{run_stop}\n"
def tplPbsHeader : List Char := chars! "#!/bin/bash -l\n#PBS -N {name}\n#PBS -lselect={num_nodes}:ncpus={num_procs}:mem={gigabytes}gb\n#PBS -lwalltime={hours:02}:{minutes:02}:{seconds:02}\n{header_options}\n"
def tplPbsArrayHeader : List Char := chars! "#PBS -J {run_start}-{run_stop}\n"
def tplSlurmHeader : List Char := chars! "#!/bin/bash -l\n#SBATCH --job-name={name}\n#SBATCH --time={hours:02}:{minutes:02}:{seconds:02}\n{header_options}\n"
def tplSlurmArrayHeader : List Char := chars! "#SBATCH --array={run_start}-{run_stop}\n"
def tplBase : List Char := chars! "echo 'XYZPY script starting...'\ncd {working_directory}\nexport OMP_NUM_THREADS={num_threads}\nexport MKL_NUM_THREADS={num_threads}\nexport OPENBLAS_NUM_THREADS={num_threads}\nexport NUMBA_NUM_THREADS={num_threads}\n{shell_setup}\nread -r -d '' SCRIPT << EOM\n{setup}\nfrom xyzpy.gen.cropping import grow, Crop\nif __name__ == '__main__':\n    crop = Crop(name='{name}', parent_dir='{parent_dir}')\n    print('Growing:', repr(crop))\n"
def tplArrayGrowKwargs : List Char := chars! "    grow_kwargs = dict(crop=crop, debugging={debugging}, num_workers={num_workers})\n"
def tplSgeGrowAll : List Char := chars! "    grow_kwargs = dict(crop=crop, debugging={debugging}, num_workers={num_workers})\n    grow($SGE_TASK_ID, **grow_kwargs)\n"
def tplPbsGrowAll : List Char := chars! "    grow_kwargs = dict(crop=crop, debugging={debugging}, num_workers={num_workers})\n    grow($PBS_ARRAY_INDEX, **grow_kwargs)\n"
def tplSlurmGrowAll : List Char := chars! "    grow_kwargs = dict(crop=crop, debugging={debugging}, num_workers={num_workers})\n    grow($SLURM_ARRAY_TASK_ID, **grow_kwargs)\n"
def tplSgeGrowPartial : List Char := chars! "    grow_kwargs = dict(crop=crop, debugging={debugging}, num_workers={num_workers})\n    batch_ids = {batch_ids}\n    grow(batch_ids[$SGE_TASK_ID - 1], **grow_kwargs)\n"
def tplPbsGrowPartial : List Char := chars! "    grow_kwargs = dict(crop=crop, debugging={debugging}, num_workers={num_workers})\n    batch_ids = {batch_ids}\n    grow(batch_ids[$PBS_ARRAY_INDEX - 1], **grow_kwargs)\n"
def tplSlurmGrowPartial : List Char := chars! "    grow_kwargs = dict(crop=crop, debugging={debugging}, num_workers={num_workers})\n    batch_ids = {batch_ids}\n    grow(batch_ids[$SLURM_ARRAY_TASK_ID - 1], **grow_kwargs)\n"
def tplGrowSingle : List Char := chars! "    batch_ids = {batch_ids}\n    crop.grow(batch_ids, num_workers={num_workers})\n"
def tplScriptEnd : List Char := chars! "EOM\n{launcher} -c \"$SCRIPT\"\necho 'XYZPY script finished'\n"
def scriptPieces (sched mode am : List Char) : List (List Char) := if sched == chars! "sge" && mode == chars! "array" && am == chars! "all" then [tplSgeHeader, tplSgeArrayHeader, tplBase, tplSgeGrowAll, tplScriptEnd] else if sched == chars! "sge" && mode == chars! "array" && am == chars! "partial" then [tplSgeHeader, tplSgeArrayHeader, tplBase, tplSgeGrowPartial, tplScriptEnd] else if sched == chars! "sge" && mode == chars! "single" && am == chars! "all" then [tplSgeHeader, tplBase, tplGrowSingle, tplScriptEnd] else if sched == chars! "sge" && mode == chars! "single" && am == chars! "partial" then [tplSgeHeader, tplBase, tplGrowSingle, tplScriptEnd] else if sched == chars! "pbs" && mode == chars! "array" && am == chars! "all" then [tplPbsHeader, tplPbsArrayHeader, tplBase, tplPbsGrowAll, tplScriptEnd] else if sched == chars! "pbs" && mode == chars! "array" && am == chars! "partial" then [tplPbsHeader, tplPbsArrayHeader, tplBase, tplPbsGrowPartial, tplScriptEnd] else if sched == chars! "pbs" && mode == chars! "single" && am == chars! "all" then [tplPbsHeader, tplBase, tplGrowSingle, tplScriptEnd] else if sched == chars! "pbs" && mode == chars! "single" && am == chars! "partial" then [tplPbsHeader, tplBase, tplGrowSingle, tplScriptEnd] else if sched == chars! "slurm" && mode == chars! "array" && am == chars! "all" then [tplSlurmHeader, tplSlurmArrayHeader, tplBase, tplSlurmGrowAll, tplScriptEnd] else if sched == chars! "slurm" && mode == chars! "array" && am == chars! "partial" then [tplSlurmHeader, tplSlurmArrayHeader, tplBase, tplSlurmGrowPartial, tplScriptEnd] else if sched == chars! "slurm" && mode == chars! "single" && am == chars! "all" then [tplSlurmHeader, tplBase, tplGrowSingle, tplScriptEnd] else if sched == chars! "slurm" && mode == chars! "single" && am == chars! "partial" then [tplSlurmHeader, tplBase, tplGrowSingle, tplScriptEnd] else []
def scriptIdsChoice (explicitGiven : Bool) (numResults numBatches : Int) : Nat × Bool := (if explicitGiven then ((0 : Nat), false) else (if (decide (numResults = (0 : Int))) then ((1 : Nat), true) else ((2 : Nat), false)))
def scriptAllRangeStart (numBatches : Int) : Int := (1 : Int)
def scriptAllRangeStop (numBatches : Int) : Int := (numBatches + (1 : Int))
def scriptRunStart (numBatches lenIds : Int) : Int := (1 : Int)
def scriptRunStopAll (numBatches lenIds : Int) : Int := numBatches
def scriptRunStopPartial (numBatches lenIds : Int) : Int := lenIds
def scriptSingleDynamic (explicitGiven : Bool) : Bool := (!explicitGiven)
def scriptSingleDynamicIds : List Char := chars! "crop.missing_results()"
def scriptPbsRewrite (isPbs : Bool) (lenIds : Int) : Bool := (isPbs && (decide (lenIds = (1 : Int))))
def scriptPbsReplacements : List (List Char × List Char) := [(chars! "#PBS -J 1-1\n", chars! ""), (chars! "$PBS_ARRAY_INDEX", chars! "1")]

end Gen.Default
