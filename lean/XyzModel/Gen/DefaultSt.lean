import XyzModel.Gen.DefaultFn
import XyzModel.Gen.DefaultData
/-!
State skeletons (harness/pyst2lean.py, harness/anchors_st.py): the farmers' storage methods as functions over an abstract
state and a record of operations.  This file holds the vocabulary (`NameRef`, `StoreOps`, `stBind`, `stFinally`) and the
last-good text of the generated functions (`Gen.Default.*`).
-/
namespace Gen

/-- which file name an operation is handed -/
inductive NameRef (G : Type) where
  | bare                              -- `self.data_name`
  | ext (engine : Option G)           -- `auto_add_extension(self.data_name, engine)`
  | tmp (of : NameRef G)              -- `<dir of F>/.tmp-<pid>-<base of F>` for such a name F
deriving Repr, DecidableEq

/-- the operations the storage methods of `Harvester` / `Sampler` perform, on any state type `S`
(`D` data, `G` engines, `E` errors).  An operation that can raise returns the state it reached and the error. -/
structure StoreOps (S D G E : Type) where
  raised : PyErr → E                                      -- an exception raised by the method itself
  selfEngine : S → G                                      -- `self.engine`
  isZarr : Option G → Bool                                -- `engine == 'zarr'`
  memIsNone : S → Bool                                    -- `self._full_ds is None`
  mem : S → D                                             -- `self._full_ds` (meaningful when not `memIsNone`)
  setMem : S → D → S                                      -- `self._full_ds = d`
  accessW : S → NameRef G → Bool                          -- `os.access(name, os.W_OK)`
  isFile : S → NameRef G → Bool                           -- `os.path.isfile(name)`
  pathExists : S → NameRef G → Bool                       -- `os.path.exists(name)`
  loadData : S → NameRef G → Option G → Except E D        -- `load_ds(name, engine=…)` / `load_df`
  saveData : S → D → NameRef G → Option G → S × Option E  -- `save_ds(d, name, engine=…)` / `save_df`
  afterSave : Option G → D → D                            -- the object handed to the writer, afterwards (rewritten in place)
  replace : S → NameRef G → NameRef G → S × Option E      -- `os.replace(src, dst)`
  remove : S → NameRef G → S × Option E                   -- `os.remove(name)`
  rmtree : S → NameRef G → S × Option E                   -- `shutil.rmtree(name)`
  copy : D → D                                            -- `d.copy(deep=True)`
  merge : MergeKind → D → D → Except E D                  -- the xarray merge of (old, new) of that kind
  concat : D → D → D                                      -- `pd.concat([old, new], ignore_index=True)`

/-- continue on the state an operation reached unless it raised -/
def stBind {S E : Type} (r : S × Option E) (k : S → S × Option E) : S × Option E :=
  match r with
  | (s, some e) => (s, some e)
  | (s, none) => k s

/-- `try: A finally: B` — B runs on the state A reached; A's exception is re-raised unless B raises itself -/
def stFinally {S E : Type} (r : S × Option E) (fin : S → S × Option E) : S × Option E :=
  match r with
  | (s, none) => fin s
  | (s, some e) =>
    match fin s with
    | (s', none) => (s', some e)
    | (s', some e') => (s', some e')

@[simp] theorem stBind_err {S E : Type} (s : S) (e : E) (k) : stBind (s, some e) k = (s, some e) := rfl
@[simp] theorem stBind_ok {S E : Type} (s : S) (k : S → S × Option E) : stBind (s, none) k = k s := rfl
@[simp] theorem stFinally_ok {S E : Type} (s : S) (f : S → S × Option E) : stFinally (s, none) f = f s := rfl
theorem stBind_pure {S E : Type} (r : S × Option E) : stBind r (fun s => (s, none)) = r := by
  obtain ⟨s, e⟩ := r; cases e <;> rfl

end Gen

namespace Gen.Default
open Gen

def hvLoadFull {S D G E : Type} (o : StoreOps S D G E) (engine : Option G) (st : S) : S × Option E :=
  let engine := if engine.isNone then
      let engine := (some (o.selfEngine st))
      engine
    else
      engine
  if (o.accessW st (.ext engine)) then
    (match o.loadData st .bare engine with
    | .error e => (st, some e)
    | .ok loaded =>
      let st := o.setMem st loaded
      (st, none))
  else
    if (!(o.isFile st (.ext engine))) then
      (st, none)
    else
      (st, some (o.raised .other))

def hvSaveFull {S D G E : Type} (o : StoreOps S D G E) (dataNameNone newGiven : Bool) (newFullDs : D) (engine : Option G) (st : S) : S × Option E :=
  if dataNameNone then
    (st, some (o.raised .xyzError))
  else
    let engine := if engine.isNone then
        let engine := (some (o.selfEngine st))
        engine
      else
        engine
    if newGiven then
      if (o.isZarr engine) then
        (stBind (if (o.pathExists st (.ext engine)) then
            (stBind (o.rmtree st (.ext engine)) fun st =>
              (st, none))
          else
            (st, none)) fun st =>
          let st := o.setMem st newFullDs
          (stBind (o.saveData st (o.mem st) .bare engine) fun st =>
            let st := o.setMem st (o.afterSave engine (o.mem st))
            (st, none)))
      else
        (stBind (stFinally (
            (stBind (o.saveData st newFullDs (.tmp (.ext engine)) engine) fun st =>
              let newFullDs := (o.afterSave engine newFullDs)
              (stBind (o.replace st (.tmp (.ext engine)) (.ext engine)) fun st =>
                (st, none))))
          (fun st =>
            (stBind (if (o.pathExists st (.tmp (.ext engine))) then
                (stBind (o.remove st (.tmp (.ext engine))) fun st =>
                  (st, none))
              else
                (st, none)) fun st =>
              (st, none)))) fun st =>
          let newFullDs := (o.afterSave engine newFullDs)
          let st := o.setMem st newFullDs
          (st, none))
    else
      (stBind (o.saveData st (o.mem st) .bare engine) fun st =>
        let st := o.setMem st (o.afterSave engine (o.mem st))
        (st, none))

def hvAddDs {S D G E : Type} (o : StoreOps S D G E) (dataNameNone sync : Bool) (overwrite : Option Bool) (newDs : D) (engine : Option G) (st : S) : S × Option E :=
  let syncWithDisk : Bool := (sync && (!dataNameNone))
  (stBind (if syncWithDisk then
      (stBind (hvLoadFull o engine st) fun st =>
        (st, none))
    else
      (st, none)) fun st =>
    if (o.memIsNone st) then
      let newFullDs := (o.copy newDs)
      (stBind (if syncWithDisk then
          (stBind (hvSaveFull o dataNameNone true newFullDs engine st) fun st =>
            (st, none))
        else
          let st := o.setMem st newFullDs
          (st, none)) fun st =>
        (st, none))
    else
      if (overwrite == some true) then
        (match o.merge MergeKind.newFirst (o.mem st) newDs with
        | .error e => (st, some e)
        | .ok newFullDs =>
          (stBind (if syncWithDisk then
              (stBind (hvSaveFull o dataNameNone true newFullDs engine st) fun st =>
                (st, none))
            else
              let st := o.setMem st newFullDs
              (st, none)) fun st =>
            (st, none)))
      else
        if (overwrite == some false) then
          (match o.merge MergeKind.oldFirst (o.mem st) newDs with
          | .error e => (st, some e)
          | .ok newFullDs =>
            (stBind (if syncWithDisk then
                (stBind (hvSaveFull o dataNameNone true newFullDs engine st) fun st =>
                  (st, none))
              else
                let st := o.setMem st newFullDs
                (st, none)) fun st =>
              (st, none)))
        else
          (match o.merge MergeKind.noConflicts (o.mem st) newDs with
          | .error e => (st, some e)
          | .ok newFullDs =>
            (stBind (if syncWithDisk then
                (stBind (hvSaveFull o dataNameNone true newFullDs engine st) fun st =>
                  (st, none))
              else
                let st := o.setMem st newFullDs
                (st, none)) fun st =>
              (st, none))))

def smLoadFull {S D G E : Type} (o : StoreOps S D G E) (engine : Option G) (st : S) : S × Option E :=
  let engine := if engine.isNone then
      let engine := (some (o.selfEngine st))
      engine
    else
      engine
  if (o.accessW st .bare) then
    (match o.loadData st .bare engine with
    | .error e => (st, some e)
    | .ok loaded =>
      let st := o.setMem st loaded
      (st, none))
  else
    if (!(o.isFile st .bare)) then
      (st, none)
    else
      (st, some (o.raised .other))

def smSaveFull {S D G E : Type} (o : StoreOps S D G E) (newGiven : Bool) (newFullDf : D) (engine : Option G) (st : S) : S × Option E :=
  let engine := if engine.isNone then
      let engine := (some (o.selfEngine st))
      engine
    else
      engine
  if newGiven then
    (stBind (stFinally (
        (stBind (o.saveData st newFullDf (.tmp .bare) engine) fun st =>
          let newFullDf := (o.afterSave engine newFullDf)
          (stBind (o.replace st (.tmp .bare) .bare) fun st =>
            (st, none))))
      (fun st =>
        (stBind (if (o.pathExists st (.tmp .bare)) then
            (stBind (o.remove st (.tmp .bare)) fun st =>
              (st, none))
          else
            (st, none)) fun st =>
          (st, none)))) fun st =>
      let newFullDf := (o.afterSave engine newFullDf)
      let st := o.setMem st newFullDf
      (st, none))
  else
    (stBind (o.saveData st (o.mem st) .bare engine) fun st =>
      let st := o.setMem st (o.afterSave engine (o.mem st))
      (st, none))

def smAddDf {S D G E : Type} (o : StoreOps S D G E) (dataNameNone sync : Bool) (newDf : D) (engine : Option G) (st : S) : S × Option E :=
  let syncWithDisk : Bool := (sync && (!dataNameNone))
  (stBind (if syncWithDisk then
      (stBind (smLoadFull o engine st) fun st =>
        (st, none))
    else
      (st, none)) fun st =>
    if (o.memIsNone st) then
      let newFullDf := (o.copy newDf)
      (stBind (if syncWithDisk then
          (stBind (smSaveFull o true newFullDf engine st) fun st =>
            (st, none))
        else
          let st := o.setMem st newFullDf
          (st, none)) fun st =>
        (st, none))
    else
      let newFullDf := (o.concat (o.mem st) newDf)
      (stBind (if syncWithDisk then
          (stBind (smSaveFull o true newFullDf engine st) fun st =>
            (st, none))
        else
          let st := o.setMem st newFullDf
          (st, none)) fun st =>
        (st, none)))

end Gen.Default
