import XyzModel.Gen.DefaultSt
/-!
Vocabulary and last-good text of the anchors of harness/anchors_checkbad.py:

* `write_to_disk` / `read_from_disk` (xyzpy/gen/cropping.py) as STATE skeletons over `Gen.FileOps` — open / dump / close /
  replace / remove on the two names `final | tmp`; `with open(...)` is `stWith` (the file is closed whether or not the body
  raised), `try … except BaseException: …; raise` is `stOnError` (run the handler on the state reached, then re-raise);
* `Crop.check_bad` as a state skeleton with a loop over the listed result files (`Gen.CbOps`, `cbLoop`);
* the dispatch of `Crop.reap` on the farmer's type (`Gen.ReapCall`: which method, which options are handed on).

The `Gen.Default` part is written by tools/update_default_checkbad.py; `Gen/Extracted.lean` holds the translation of the
*current* source.
-/
set_option linter.unusedVariables false
namespace Gen

/-! ### write_to_disk / read_from_disk -/

/-- which name a file operation of `write_to_disk(obj, fname)` is handed: `fname` itself, or the other name built from it
before the write (`<dir>/.tmp-<uuid>-<base>`; that it differs from `fname` is checked by evaluating its construction) -/
inductive WName where
  | final
  | tmp
deriving Repr, DecidableEq, Inhabited

/-- the file operations of `write_to_disk` / `read_from_disk`, on any state type.  An operation that can raise returns
the state it reached and the error. -/
structure FileOps (S E : Type) where
  openW : S → WName → S × Option E          -- `open(name, 'wb')` (creates / truncates)
  dump : S → WName → S × Option E           -- `pickle.dump(obj, file)` into the file opened under that name
  openR : S → WName → S × Option E          -- `open(name, 'rb')`
  load : S → WName → S × Option E           -- `pickle.load(file)`
  close : S → WName → S × Option E          -- leaving the `with` block
  replace : S → WName → WName → S × Option E  -- `os.replace(src, dst)` / `os.rename`
  pathExists : S → WName → Bool             -- `os.path.exists(name)`
  remove : S → WName → S × Option E         -- `os.remove(name)`

/-- `try: A except BaseException: H; raise` — if A raised, H runs on the state A reached and the exception is re-raised
(H's own exception wins if it raises) -/
def stOnError {S E : Type} (r : S × Option E) (h : S → S × Option E) : S × Option E :=
  match r with
  | (s, none) => (s, none)
  | (s, some e) =>
    match h s with
    | (s', none) => (s', some e)
    | (s', some e') => (s', some e')

/-- `try: A except BaseException: H` WITHOUT a re-raise: the exception is swallowed, the body goes on after H -/
def stCatch {S E : Type} (r : S × Option E) (h : S → S × Option E) : S × Option E :=
  match r with
  | (s, none) => (s, none)
  | (s, some _) => h s

/-- `with <open> as f: body` — if the open raised nothing else happens; otherwise the body runs and the file is closed
whether or not the body raised (the body's exception is re-raised unless closing raises itself) -/
def stWith {S E : Type} (opened : S × Option E) (body exit : S → S × Option E) : S × Option E :=
  stBind opened fun st => stFinally (body st) exit

@[simp] theorem stFinally_err {S E : Type} (s : S) (e : E) (f : S → S × Option E) :
    stFinally (s, some e) f = ((f s).1, some ((f s).2.getD e)) := by
  cases hf : f s with
  | mk s' o => cases o <;> simp [stFinally, hf]
@[simp] theorem stOnError_ok {S E : Type} (s : S) (h : S → S × Option E) : stOnError (s, none) h = (s, none) := rfl
@[simp] theorem stOnError_err {S E : Type} (s : S) (e : E) (h : S → S × Option E) :
    stOnError (s, some e) h = ((h s).1, some ((h s).2.getD e)) := by
  cases hf : h s with
  | mk s' o => cases o <;> simp [stOnError, hf]
@[simp] theorem stCatch_ok {S E : Type} (s : S) (h : S → S × Option E) : stCatch (s, none) h = (s, none) := rfl
@[simp] theorem stCatch_err {S E : Type} (s : S) (e : E) (h : S → S × Option E) : stCatch (s, some e) h = h s := rfl

/-! ### check_bad -/

/-- a file of the crop directory as `check_bad` names it: result / batch file number `i`, or any other path -/
inductive CbFile where
  | result (i : Nat)
  | batch (i : Nat)
  | other
deriving Repr, DecidableEq, Inhabited

/-- which glob a listing uses -/
inductive CbKind where
  | results     -- `<location>/results/xyz-result-*.jbdmp`
  | batches     -- `<location>/batches/xyz-batch-*.jbdmp`
  | other
deriving Repr, DecidableEq, Inhabited

/-- the listed file number `i` of a listing of that kind -/
def CbKind.file : CbKind → Nat → CbFile
  | .results, i => .result i
  | .batches, i => .batch i
  | .other, _ => .other

/-- the operations of `check_bad` on any state type: list the numbers of the files matching a glob (in listing order),
read a file and take the length of what it holds (raises when it cannot be read), remove a file -/
structure CbOps (S E : Type) where
  list : S → CbKind → List Nat
  readLen : S → CbFile → Except E Int
  remove : S → CbFile → S × Option E

/-- a `for` loop with an accumulator next to the state: the body runs for every item in order; the first item whose
body raises ends the loop with the state and accumulator reached -/
def cbLoop {S A E : Type} (body : Nat → S → A → (S × A) × Option E) : List Nat → S → A → (S × A) × Option E
  | [], st, acc => ((st, acc), none)
  | i :: is, st, acc =>
    match body i st acc with
    | ((st', acc'), none) => cbLoop body is st' acc'
    | r => r

/-- continue with the state an operation reached unless it raised; a call that raises reports nothing, so the translated
bodies hand over the empty accumulator `acc` for that case (whatever had been collected is dropped with the exception) -/
def cbBind {S A E : Type} (r : S × Option E) (acc : A) (k : S → (S × A) × Option E) : (S × A) × Option E :=
  match r with
  | (s, some e) => ((s, acc), some e)
  | (s, none) => k s

@[simp] theorem cbBind_ok {S A E : Type} (s : S) (acc : A) (k : S → (S × A) × Option E) :
    cbBind (E := E) (s, none) acc k = k s := rfl
@[simp] theorem cbBind_err {S A E : Type} (s : S) (e : E) (acc : A) (k : S → (S × A) × Option E) :
    cbBind (s, some e) acc k = ((s, acc), some e) := rfl

/-! ### Crop.reap -/

/-- what `self.farmer` is -/
inductive Farmer where
  | none | runner | harvester | sampler
deriving Repr, DecidableEq, Inhabited

/-- the method `Crop.reap` hands the call on to -/
inductive ReapTarget where
  | combos | runner | harvest | samples
deriving Repr, DecidableEq, Inhabited

/-- the call `Crop.reap` makes: the method and the value each of its parameters receives (a parameter the method does
not have is recorded with the neutral value `false` / `none`); `farmerPassed`: the first argument is `self.farmer` -/
structure ReapCall where
  target : ReapTarget
  farmerPassed : Bool
  wait : Bool
  sync : Bool
  overwrite : Option Bool
  cleanUp : Option Bool
  allowIncomplete : Bool
  toDf : Bool
deriving Repr, DecidableEq

end Gen

namespace Gen.Default
open Gen

def writeToDisk {S E : Type} (o : FileOps S E) (st : S) : S × Option E :=
  (stBind (stOnError (
      (stBind (stWith (o.openW st .tmp) (fun st =>
          (stBind (o.dump st .tmp) fun st =>
            (st, none)))
        (fun st => o.close st .tmp)) fun st =>
        (stBind (o.replace st .tmp .final) fun st =>
          (st, none))))
    (fun st =>
      (stBind (if (o.pathExists st .tmp) then
          (stBind (o.remove st .tmp) fun st =>
            (st, none))
        else
          (st, none)) fun st =>
        (st, none)))) fun st =>
    (st, none))

def readFromDisk {S E : Type} (o : FileOps S E) (st : S) : S × Option E :=
  (stBind (stWith (o.openR st .final) (fun st =>
      (stBind (o.load st .final) fun st =>
        (st, none)))
    (fun st => o.close st .final)) fun st =>
    (st, none))

def checkBadSk {S E : Type} (o : CbOps S E) (deleteBad : Bool) (st : S) : (S × List Nat) × Option E :=
  cbLoop (fun i st badIds =>
    (match o.readLen st (.batch i) with
    | .error e => ((st, []), some e)
    | .ok len0 =>
      let (unloadable, len1) := (match o.readLen st (.result i) with
        | .ok n => (false, n)
        | .error _ => (true, (0 : Int)))
      if (unloadable || (decide (len1 ≠ len0))) then
        if deleteBad then
          (cbBind (o.remove st (.result i)) [] fun st =>
            let badIds := badIds ++ [i]
            ((st, badIds), none))
        else
          let badIds := badIds ++ [i]
          ((st, badIds), none)
      else
        ((st, badIds), none))) (o.list st .results) st []

def reapDispatch (farmer : Farmer) (wait sync : Bool) (overwrite cleanUp : Option Bool) (allowIncomplete : Bool) : ReapCall :=
  if (farmer == .runner) then
    { target := .runner, farmerPassed := true, wait := wait, sync := false, overwrite := none, cleanUp := cleanUp, allowIncomplete := allowIncomplete, toDf := false }
  else
    if (farmer == .harvester) then
      { target := .harvest, farmerPassed := true, wait := wait, sync := sync, overwrite := overwrite, cleanUp := cleanUp, allowIncomplete := allowIncomplete, toDf := false }
    else
      if (farmer == .sampler) then
        { target := .samples, farmerPassed := true, wait := wait, sync := sync, overwrite := none, cleanUp := cleanUp, allowIncomplete := allowIncomplete, toDf := false }
      else
        { target := .combos, farmerPassed := false, wait := wait, sync := false, overwrite := none, cleanUp := cleanUp, allowIncomplete := allowIncomplete, toDf := false }

def reapDefaults : Bool × Bool × Option Bool × Option Bool × Bool := (false, true, (none : Option Bool), (none : Option Bool), false)

def deleteAllRemoves : Bool := true

def initAutoload (autoload isPrepared : Bool) : Bool := (autoload && isPrepared)

def initAutoloadDefault : Bool := true

def loadCropsAutoloads : Bool := true

end Gen.Default
