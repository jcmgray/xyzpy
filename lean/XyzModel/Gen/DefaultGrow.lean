import XyzModel.Gen.DefaultFn
/-!
Last-good definitions of the anchors of harness/anchors_grow.py (the module-level `grow` as an effect skeleton; the
progress queries of `Crop` as functions over directory queries), and the
helpers the generated text calls.  Written by tools/update_default_grow.py; `Gen/Extracted.lean` holds the translation
of the *current* source.
-/
set_option linter.unusedVariables false
namespace Gen

/-- the effects a `grow` of one batch can attempt -/
inductive GEff where
  | readFn            -- reading the pickled function (only when no function was handed in)
  | readBatch         -- reading the batch file of this batch number
  | readOther         -- reading any other file
  | executor          -- getting the worker pool
  | submit (k : Nat)  -- handing case k to the pool
  | eval (k : Nat)    -- evaluating the function on case k (sequential branch)
  | collect (k : Nat) -- waiting for / fetching the result of case k from the pool
  | writeResult       -- writing the result file of this batch number
  | writeOther        -- writing any other file
deriving Repr, DecidableEq, Inhabited

/-- run a skeleton, then continue on its trace unless it raised (any effect type) -/
def skBindG {ε : Type} (r : List ε × Option PyErr) (k : List ε → List ε × Option PyErr) : List ε × Option PyErr :=
  match r with
  | (t, some e) => (t, some e)
  | (t, none) => k t

@[simp] theorem skBindG_err {ε : Type} (t : List ε) (e : PyErr) (k) : skBindG (t, some e) k = (t, some e) := rfl
@[simp] theorem skBindG_ok {ε : Type} (t : List ε) (k) : skBindG (t, none) k = k t := rfl

/-- a loop over `n` items starting at index `k`: attempt `item k`; if it raises the loop (and the body) ends there;
otherwise run the loop body's own skeleton, then go on with `k + 1` -/
def skLoopB {ε : Type} (fails : ε → Bool) (item : Nat → ε) (body : Nat → List ε → List ε × Option PyErr) :
    Nat → Nat → List ε → List ε × Option PyErr
  | 0, _, t => (t, none)
  | n + 1, k, t =>
    if fails (item k) then (t ++ [item k], some .other)
    else skBindG (body k (t ++ [item k])) (skLoopB fails item body n (k + 1))

/-- "attempt `item k` for k = 0..n-1 in order, stop at the first that fails" -/
def skLoop {ε : Type} (fails : ε → Bool) (item : Nat → ε) (n : Nat) (t : List ε) : List ε × Option PyErr :=
  skLoopB fails item (fun _ t => (t, none)) n 0 t

/-- Python's `range(a, b)` -/
def rangeInt (a b : Int) : List Int := (List.range (b - a).toNat).map (fun (k : Nat) => a + (k : Int))

end Gen

namespace Gen.Default


def growSk (fails : GEff → Bool) (cropIsNone cwdNotCrop fnIsNone : Bool) (n : Nat) (numWorkers : Option Int) (checkMpi ompiSet : Bool) (ompiRank : Int) (pmiSet : Bool) (pmiRank : Int) (trace : List GEff) : List GEff × Option PyErr := 
  if cropIsNone then
    if cwdNotCrop then
      (trace, some .xyzError)
    else
      let trace := if fnIsNone then trace ++ [.readFn] else trace
      if fnIsNone && fails .readFn then (trace, some .other) else
      let trace := trace ++ [.readBatch]
      if fails .readBatch then (trace, some .other) else
      if (decide ((n : Int) = (0 : Int))) then
        (trace, some .valueError)
      else
        if (checkMpi && ompiSet) then
          let mpi : Bool := true
          let rank : Int := ompiRank
          if numWorkers.isNone then
            (skBindG (skLoop fails GEff.eval n trace) fun trace =>
              if (decide (rank = (0 : Int))) then
                let trace := trace ++ [.writeResult]
                if fails .writeResult then (trace, some .other) else
                (trace, none)
              else
                (trace, none))
          else
            let trace := trace ++ [.executor]
            if fails .executor then (trace, some .other) else
            (skBindG (skLoop fails GEff.submit n trace) fun trace =>
              (skBindG (skLoop fails GEff.collect n trace) fun trace =>
                if (decide (rank = (0 : Int))) then
                  let trace := trace ++ [.writeResult]
                  if fails .writeResult then (trace, some .other) else
                  (trace, none)
                else
                  (trace, none)))
        else
          let (mpi, rank) := if (checkMpi && pmiSet) then
              let mpi : Bool := true
              let rank : Int := pmiRank
              (mpi, rank)
            else
              let mpi : Bool := false
              let rank : Int := (0 : Int)
              (mpi, rank)
          if numWorkers.isNone then
            (skBindG (skLoop fails GEff.eval n trace) fun trace =>
              if (decide (rank = (0 : Int))) then
                let trace := trace ++ [.writeResult]
                if fails .writeResult then (trace, some .other) else
                (trace, none)
              else
                (trace, none))
          else
            let trace := trace ++ [.executor]
            if fails .executor then (trace, some .other) else
            (skBindG (skLoop fails GEff.submit n trace) fun trace =>
              (skBindG (skLoop fails GEff.collect n trace) fun trace =>
                if (decide (rank = (0 : Int))) then
                  let trace := trace ++ [.writeResult]
                  if fails .writeResult then (trace, some .other) else
                  (trace, none)
                else
                  (trace, none)))
  else
    let trace := if fnIsNone then trace ++ [.readFn] else trace
    if fnIsNone && fails .readFn then (trace, some .other) else
    let trace := trace ++ [.readBatch]
    if fails .readBatch then (trace, some .other) else
    if (decide ((n : Int) = (0 : Int))) then
      (trace, some .valueError)
    else
      if (checkMpi && ompiSet) then
        let mpi : Bool := true
        let rank : Int := ompiRank
        if numWorkers.isNone then
          (skBindG (skLoop fails GEff.eval n trace) fun trace =>
            if (decide (rank = (0 : Int))) then
              let trace := trace ++ [.writeResult]
              if fails .writeResult then (trace, some .other) else
              (trace, none)
            else
              (trace, none))
        else
          let trace := trace ++ [.executor]
          if fails .executor then (trace, some .other) else
          (skBindG (skLoop fails GEff.submit n trace) fun trace =>
            (skBindG (skLoop fails GEff.collect n trace) fun trace =>
              if (decide (rank = (0 : Int))) then
                let trace := trace ++ [.writeResult]
                if fails .writeResult then (trace, some .other) else
                (trace, none)
              else
                (trace, none)))
      else
        let (mpi, rank) := if (checkMpi && pmiSet) then
            let mpi : Bool := true
            let rank : Int := pmiRank
            (mpi, rank)
          else
            let mpi : Bool := false
            let rank : Int := (0 : Int)
            (mpi, rank)
        if numWorkers.isNone then
          (skBindG (skLoop fails GEff.eval n trace) fun trace =>
            if (decide (rank = (0 : Int))) then
              let trace := trace ++ [.writeResult]
              if fails .writeResult then (trace, some .other) else
              (trace, none)
            else
              (trace, none))
        else
          let trace := trace ++ [.executor]
          if fails .executor then (trace, some .other) else
          (skBindG (skLoop fails GEff.submit n trace) fun trace =>
            (skBindG (skLoop fails GEff.collect n trace) fun trace =>
              if (decide (rank = (0 : Int))) then
                let trace := trace ++ [.writeResult]
                if fails .writeResult then (trace, some .other) else
                (trace, none)
              else
                (trace, none)))

def cropIsPrepared (infoExists otherExists : Bool) (infoBs infoNb infoRem : Option Int) (nBatchFiles nResultFiles nOtherFiles : Int) (isResultFile isBatchFile : Int → Bool) (batchsize numBatches remainder : Option Int) (numSown numResults : Int) : Except PyErr Bool := 
  .ok (infoExists)

def cropCalcProgress (infoExists otherExists : Bool) (infoBs infoNb infoRem : Option Int) (nBatchFiles nResultFiles nOtherFiles : Int) (isResultFile isBatchFile : Int → Bool) (batchsize numBatches remainder : Option Int) (numSown numResults : Int) : Except PyErr (Option Int × Option Int × Option Int × Int × Int) := 
  if infoExists then
    let batchsize : Option Int := infoBs
    let numBatches : Option Int := infoNb
    let remainder : Option Int := infoRem
    let numSown : Int := nBatchFiles
    let numResults : Int := nResultFiles
    .ok (batchsize, numBatches, remainder, numSown, numResults)
  else
    let numSown : Int := (-(1 : Int))
    let numResults : Int := (-(1 : Int))
    .ok (batchsize, numBatches, remainder, numSown, numResults)

def cropIsReadyToReap (infoExists otherExists : Bool) (infoBs infoNb infoRem : Option Int) (nBatchFiles nResultFiles nOtherFiles : Int) (isResultFile isBatchFile : Int → Bool) (batchsize numBatches remainder : Option Int) (numSown numResults : Int) : Except PyErr (Bool × Option Int × Option Int × Option Int × Int × Int) := 
  if infoExists then
    let batchsize : Option Int := infoBs
    let numBatches : Option Int := infoNb
    let remainder : Option Int := infoRem
    let numSown : Int := nBatchFiles
    let numResults : Int := nResultFiles
    if infoExists then
      let batchsize : Option Int := infoBs
      let numBatches : Option Int := infoNb
      let remainder : Option Int := infoRem
      let numSown : Int := nBatchFiles
      let numResults : Int := nResultFiles
      .ok (((decide (numResults > (0 : Int))) && (decide (numResults = numSown))), batchsize, numBatches, remainder, numSown, numResults)
    else
      let numSown : Int := (-(1 : Int))
      let numResults : Int := (-(1 : Int))
      .ok (((decide (numResults > (0 : Int))) && (decide (numResults = numSown))), batchsize, numBatches, remainder, numSown, numResults)
  else
    let numSown : Int := (-(1 : Int))
    let numResults : Int := (-(1 : Int))
    if infoExists then
      let batchsize : Option Int := infoBs
      let numBatches : Option Int := infoNb
      let remainder : Option Int := infoRem
      let numSown : Int := nBatchFiles
      let numResults : Int := nResultFiles
      .ok (((decide (numResults > (0 : Int))) && (decide (numResults = numSown))), batchsize, numBatches, remainder, numSown, numResults)
    else
      let numSown : Int := (-(1 : Int))
      let numResults : Int := (-(1 : Int))
      .ok (((decide (numResults > (0 : Int))) && (decide (numResults = numSown))), batchsize, numBatches, remainder, numSown, numResults)

def cropMissingResults (infoExists otherExists : Bool) (infoBs infoNb infoRem : Option Int) (nBatchFiles nResultFiles nOtherFiles : Int) (isResultFile isBatchFile : Int → Bool) (batchsize numBatches remainder : Option Int) (numSown numResults : Int) : Except PyErr (List Int × Option Int × Option Int × Option Int × Int × Int) := 
  if infoExists then
    let batchsize : Option Int := infoBs
    let numBatches : Option Int := infoNb
    let remainder : Option Int := infoRem
    let numSown : Int := nBatchFiles
    let numResults : Int := nResultFiles
    (match numBatches with
    | none => .error .typeError
    | some numBatches_v1 =>
      .ok (((rangeInt (1 : Int) (numBatches_v1 + (1 : Int))).filter (fun x => (!(isResultFile x)))), batchsize, (some numBatches_v1 : Option Int), remainder, numSown, numResults))
  else
    let numSown : Int := (-(1 : Int))
    let numResults : Int := (-(1 : Int))
    (match numBatches with
    | none => .error .typeError
    | some numBatches_v2 =>
      .ok (((rangeInt (1 : Int) (numBatches_v2 + (1 : Int))).filter (fun x => (!(isResultFile x)))), batchsize, (some numBatches_v2 : Option Int), remainder, numSown, numResults))

def cropNumSownBatches (infoExists otherExists : Bool) (infoBs infoNb infoRem : Option Int) (nBatchFiles nResultFiles nOtherFiles : Int) (isResultFile isBatchFile : Int → Bool) (batchsize numBatches remainder : Option Int) (numSown numResults : Int) : Except PyErr (Int × Option Int × Option Int × Option Int × Int × Int) := 
  if infoExists then
    let batchsize : Option Int := infoBs
    let numBatches : Option Int := infoNb
    let remainder : Option Int := infoRem
    let numSown : Int := nBatchFiles
    let numResults : Int := nResultFiles
    .ok (numSown, batchsize, numBatches, remainder, numSown, numResults)
  else
    let numSown : Int := (-(1 : Int))
    let numResults : Int := (-(1 : Int))
    .ok (numSown, batchsize, numBatches, remainder, numSown, numResults)

def cropNumResults (infoExists otherExists : Bool) (infoBs infoNb infoRem : Option Int) (nBatchFiles nResultFiles nOtherFiles : Int) (isResultFile isBatchFile : Int → Bool) (batchsize numBatches remainder : Option Int) (numSown numResults : Int) : Except PyErr (Int × Option Int × Option Int × Option Int × Int × Int) := 
  if infoExists then
    let batchsize : Option Int := infoBs
    let numBatches : Option Int := infoNb
    let remainder : Option Int := infoRem
    let numSown : Int := nBatchFiles
    let numResults : Int := nResultFiles
    .ok (numResults, batchsize, numBatches, remainder, numSown, numResults)
  else
    let numSown : Int := (-(1 : Int))
    let numResults : Int := (-(1 : Int))
    .ok (numResults, batchsize, numBatches, remainder, numSown, numResults)

def cropGrowIds (idsIsInt : Bool) (single : Int) (many : List Int) : List Int := (if idsIsInt then [single] else many)

def growMissingIds (missing : List Int) : List Int := missing

end Gen.Default
