/-!
Last-good definitions of every extraction anchor (see harness/extract.py, DESIGN.md §1).
`Gen/Extracted.lean` is regenerated from /repo's current source on every run; an anchor that can
no longer be located or translated is emitted there as `def x := Gen.Default.x` and reported as
`fallback` in the evidence.  These defaults describe the repaired tree (after the `fix:` commits).
-/
namespace Gen.Default

-- cropping.py : Crop.choose_batch_settings
def nbFromBs (n batchsize : Int) : Int := (n + batchsize - 1) / batchsize
def capNb (n numBatches : Int) : Int := min n numBatches
def bsOfNb (n numBatches : Int) : Int := n / numBatches
def remOfNb (n numBatches : Int) : Int := n % numBatches
def bothOk (n batchsize posTot : Int) : Bool := decide (n ≤ posTot) && decide (posTot < n + batchsize)

-- cropping.py : Sower.__call__
def sowerGetsExtra (batchCounter remainder : Int) : Bool := decide (batchCounter < remainder)
def sowerFlush (counter batchsize : Int) (extraBatch : Bool) : Bool :=
  decide (counter = batchsize + (if extraBatch then 1 else 0))

-- cropping.py : Crop.is_ready_to_reap
def isReady (numResults numSown : Int) : Bool := decide (numResults > 0) && decide (numResults = numSown)

-- cropping.py : calc_clean_up_default_res (clean_up is None -> not allow_incomplete)
def cleanUpDefault (cleanUpIsNone cleanUp allowIncomplete : Bool) : Bool :=
  if cleanUpIsNone then !allowIncomplete else cleanUp

-- cropping.py : reap_harvest / reap_samples pass clean_up=False down and delete only after the farmer's sync
def harvestDefersCleanup : Bool := true
def samplesDefersCleanup : Bool := true

end Gen.Default
