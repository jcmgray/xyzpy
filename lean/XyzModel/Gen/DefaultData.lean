/-!
Last-good definitions of the extraction anchors of the data family (harness/anchors_data.py):
`xyzpy/manage.py` (`_engine_extensions`, `auto_add_extension`, `save_ds`, `load_ds`, `save_merge_ds`) and
`xyzpy/gen/farming.py` (`Harvester.load_full_ds`, `save_full_ds`, `delete_ds`, `add_ds`).
They describe the repaired tree (after the `fix:` commit for D4).
-/
namespace Gen

/-- which xarray merge an `overwrite` value is dispatched to -/
inductive MergeKind where
  | newFirst      -- `new.combine_first(old)`
  | oldFirst      -- `old.combine_first(new)`
  | noConflicts   -- `old.merge(new, compat='no_conflicts')` / `xr.merge([old, new])`
  | unknown
deriving DecidableEq, Repr

end Gen

namespace Gen.Default

-- manage.py : _engine_extensions
def engineExt : List (String × String) :=
  [("h5netcdf", ".h5"), ("netcdf4", ".nc"), ("joblib", ".dmp"), ("zarr", ".zarr")]

-- manage.py : auto_add_extension — the guard is `not any(ext in file_name for ext in _engine_extensions.values())`
def extRuleSubstring : Bool := true
-- … and its body appends `_engine_extensions[engine]` this many times
def extAppendCount : Nat := 1

-- manage.py : save_ds / load_ds start with `file_name = auto_add_extension(file_name, engine)`
def saveDsExtends : Bool := true
def loadDsExtends : Bool := true

-- manage.py : save_ds — engines whose attributes are NOT rewritten, and the rewriting of None / True / False
def attrExempt : List String := ["joblib", "zarr"]
def attrNoneStr : String := "None"
def attrTrueStr : String := "True"
def attrFalseStr : String := "False"

-- farming.py : Harvester.load_full_ds — is the path given to os.access / os.path.isfile the extended name?
def loadFullAccessExtended : Bool := true
def loadFullIsfileExtended : Bool := true
-- farming.py : Harvester.save_full_ds — the target of os.replace(...): the path the model probes and removes
def saveFullExistsExtended : Bool := true
def saveFullRemoveExtended : Bool := true
-- farming.py : Harvester.delete_ds — os.remove(...)
def deleteRemoveExtended : Bool := true
-- manage.py : save_merge_ds — os.path.exists(...) on the extended name; load_ds called with the engine used to save
def saveMergeExistsExtended : Bool := true
def saveMergeLoadsWithEngine : Bool := true

-- farming.py : Harvester.add_ds — overwrite dispatch
def addDsTrue : MergeKind := .newFirst
def addDsFalse : MergeKind := .oldFirst
def addDsNone : MergeKind := .noConflicts
-- manage.py : save_merge_ds — overwrite dispatch
def saveMergeTrue : MergeKind := .newFirst
def saveMergeFalse : MergeKind := .oldFirst
def saveMergeNone : MergeKind := .noConflicts

end Gen.Default
