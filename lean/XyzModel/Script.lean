import XyzModel.Gen.Extracted
/-!
# Generated cluster scripts (`gen_cluster_script`, xyzpy/gen/cropping.py) — C16

* `PyVal`, `pyStr`, `fmt`: the Python values that end up in the option record `opts` and how `str.format` prints them
  for the two kinds of replacement field the templates use (`{name}` and `{name:02}`); `reprTuple` is Python's `repr`
  of a tuple of ints (`()`, `(3,)`, `(1, 3)`), `reprRange` that of `range(a, b)`.
* `parseTpl` / `render`: `str.format` on a template: literal text, `{{`/`}}` escapes, `{name}` / `{name:spec}` fields.
* `resolve`: the option handling of `gen_cluster_script` before the script is assembled (threads, time, memory,
  extra header flags, conda activation) → the option record.  Hand-written; equal to the translated body `Gen.gcsOpts` by
  `gcsOpts_refines` (XyzProofs/Refine/Script.lean).
* `chooseIds`, `runStart`, `runStop`, `assemble`, `mkScript`, `Script.text`: the decision logic — every step calls the
  definition extracted from the source (`Gen.scriptIdsChoice`, `Gen.scriptRunStopAll`, `Gen.scriptPieces`, …) and the
  extracted template strings.
* `taskBatch`, `singleIds`: abstract semantics of a generated script — which batch id array task `t` grows, which ids a
  single-mode job grows.  The shape of the `grow(...)` line is read off the extracted template text (`growArgOf`).

Everything is on `List Char` (`Str`), written `chars! "…"` (expanded when the file is elaborated, see
Gen/DefaultScript.lean), so that the kernel can evaluate it (`decide +kernel`) in the proofs: decoding a `String` literal is
prohibitively slow in the Lean 4.33 kernel.
-/
namespace Scr

/-! `Str`, `PyVal`, `pyStr`, `Opts`, `lookup`, `hasSub`, `splitOn`, `setKw`, … live in Gen/DefaultScriptOpts.lean (the generated
definitions mention them) -/

def padLeft0 (w : Nat) (s : Str) : Str := List.replicate (w - s.length) '0' ++ s
def padRight0 (w : Nat) (s : Str) : Str := s ++ List.replicate (w - s.length) '0'

/-- `format(v, spec)` for the specs that occur: `""` and `"02"` (zero fill, width 2: numbers are right-aligned with
the sign first, strings are left-aligned — so `format("1", "02") = "10"`); `none` = Python raises. -/
def fmt (v : PyVal) (spec : Str) : Option Str :=
  if spec = [] then some (pyStr v)
  else if spec = ['0', '2'] then
    match v with
    | .int i => some (if i < 0 then '-' :: padLeft0 1 (natDigits i.natAbs) else padLeft0 2 (natDigits i.toNat))
    | .bool b => some (padLeft0 2 [if b then '1' else '0'])
    | .str s => some (padRight0 2 s)
    | .flt r => some (padLeft0 2 r)
    | _ => none
  else none

/-! ### `str.format` -/

inductive Seg where
  | lit (s : Str)
  | fld (name spec : Str)
  | bad                           -- malformed template (a lone `}` / unterminated field): Python raises ValueError
deriving Repr, DecidableEq, Inhabited

structure PSt where
  mode : Nat      -- 0 text; 1 just read `{` in text; 2 in a field name; 3 in a format spec; 4 just read `}` in text
  acc : Str       -- reversed text / name / spec read so far
  name : Str      -- the field name, while its spec is being read
  out : List Seg  -- reversed

def pushLit (acc : Str) (out : List Seg) : List Seg := if acc.isEmpty then out else .lit acc.reverse :: out

def pstep (s : PSt) (c : Char) : PSt :=
  match s.mode with
  | 0 => if c = '{' then { s with mode := 1 } else if c = '}' then { s with mode := 4 } else { s with acc := c :: s.acc }
  | 1 => if c = '{' then { s with mode := 0, acc := '{' :: s.acc }
         else if c = '}' then { mode := 0, acc := [], name := [], out := .fld [] [] :: pushLit s.acc s.out }
         else if c = ':' then { mode := 3, acc := [], name := [], out := pushLit s.acc s.out }
         else { mode := 2, acc := [c], name := [], out := pushLit s.acc s.out }
  | 2 => if c = '}' then { mode := 0, acc := [], name := [], out := .fld s.acc.reverse [] :: s.out }
         else if c = ':' then { mode := 3, acc := [], name := s.acc.reverse, out := s.out }
         else { s with acc := c :: s.acc }
  | 3 => if c = '}' then { mode := 0, acc := [], name := [], out := .fld s.name s.acc.reverse :: s.out }
         else { s with acc := c :: s.acc }
  | _ => if c = '}' then { s with mode := 0, acc := '}' :: s.acc }
         else { mode := 0, acc := [c], name := [], out := .bad :: pushLit s.acc s.out }

/-- a template split into literal text and replacement fields -/
def parseTpl (t : Str) : List Seg :=
  let s := t.foldl pstep ⟨0, [], [], []⟩
  (match s.mode with
   | 0 => pushLit s.acc s.out
   | _ => .bad :: pushLit s.acc s.out).reverse

/-- text a segment contributes (empty where Python would raise; see `segOk`) -/
def segText (o : Opts) : Seg → Str
  | .lit s => s
  | .fld n sp => match lookup o n with
    | some v => (fmt v sp).getD []
    | none => []
  | .bad => []

def segOk (o : Opts) : Seg → Bool
  | .lit _ => true
  | .fld n sp => match lookup o n with
    | some v => (fmt v sp).isSome
    | none => false
  | .bad => false

/-- the rendered text, total version -/
def renderD (segs : List Seg) (o : Opts) : Str := (segs.map (segText o)).flatten

/-- `template.format(**opts)`; `none` = Python raises (KeyError / TypeError / ValueError) -/
def render (segs : List Seg) (o : Opts) : Option Str :=
  if segs.all (segOk o) then some (renderD segs o) else none

/-- all replacement fields of a parsed template -/
def fields : List Seg → List (Str × Str)
  | [] => []
  | .fld n sp :: r => (n, sp) :: fields r
  | _ :: r => fields r

/-- concatenated literal text of a parsed template -/
def litPart : List Seg → Str
  | [] => []
  | .lit s :: r => s ++ litPart r
  | _ :: r => litPart r

/-- concatenated text of the replacement fields -/
def fldPart (o : Opts) : List Seg → Str
  | [] => []
  | .fld n sp :: r => segText o (.fld n sp) ++ fldPart o r
  | _ :: r => fldPart o r

/-! ### small string helpers -/

/-- the text after the first occurrence of `pat` (`[]` if there is none) -/
def afterSub (pat : Str) : Str → Str
  | [] => []
  | c :: r => if pat.isPrefixOf (c :: r) then (c :: r).drop pat.length else afterSub pat r

/-- the text before the first occurrence of `pat` (everything if there is none) -/
def beforeSub (pat : Str) : Str → Str
  | [] => []
  | c :: r => if pat.isPrefixOf (c :: r) then [] else c :: beforeSub pat r

/-! ### schedulers, modes -/

inductive Sched where | sge | pbs | slurm
deriving Repr, DecidableEq, Inhabited
inductive Mode where | array | single
deriving Repr, DecidableEq, Inhabited
inductive AMode where | all | part
deriving Repr, DecidableEq, Inhabited

def Sched.name : Sched → Str | .sge => chars! "sge" | .pbs => chars! "pbs" | .slurm => chars! "slurm"
def Mode.name : Mode → Str | .array => chars! "array" | .single => chars! "single"
def AMode.name : AMode → Str | .all => chars! "all" | .part => chars! "partial"
/-- the environment variable through which the scheduler tells an array task its index -/
def Sched.var : Sched → Str
  | .sge => chars! "SGE_TASK_ID" | .pbs => chars! "PBS_ARRAY_INDEX" | .slurm => chars! "SLURM_ARRAY_TASK_ID"

/-! ### option handling of `gen_cluster_script` (hand model) -/

structure Raw where
  numProcs : PyVal := .none
  numThreads : PyVal := .none
  numNodes : PyVal := .none
  numWorkers : PyVal := .none
  mem : PyVal := .none
  memPerCpu : PyVal := .none
  gigabytes : PyVal := .none
  time : PyVal := .none
  hours : PyVal := .none
  minutes : PyVal := .none
  seconds : PyVal := .none
  condaEnv : PyVal := .bool true
  launcher : Str := chars! "python"
  setup : Str := chars! "#"
  shellSetup : Str := []
  mpi : Bool := false
  tempGigabytes : PyVal := .int 1
  outputDirectory : PyVal := .none
  debugging : PyVal := .bool false
  extra : List (Str × PyVal) := []
  -- environment of the call
  home : Str := []
  condaDefault : PyVal := .bool false   -- `os.environ.get("CONDA_DEFAULT_ENV", False)`
  name : Str := []
  parentDir : Str := []
deriving Repr, Inhabited

/-- `f"{m}G"` if `m` is an int, else `m` itself -/
def memSpelling (v : PyVal) : PyVal := if Py.isInt v then .str (pyStr v ++ ['G']) else v

def headerPrefix : Sched → Str
  | .slurm => chars! "#SBATCH --" | .pbs => chars! "#PBS -l " | .sge => chars! "#$ -l "

def headerLine (sched : Sched) (kv : Str × PyVal) : Str :=
  if isNone kv.2 || kv.2 == .bool true then headerPrefix sched ++ kv.1
  else headerPrefix sched ++ kv.1 ++ ['='] ++ pyStr kv.2

open Gen (PyErr)

/-- number of threads, first pass: given, else the processes (no workers) or `round(num_procs / num_workers)` -/
def threads1 (r : Raw) : Except PyErr PyVal :=
  if isNone r.numThreads then
    (if isNone r.numWorkers then .ok r.numProcs else Py.roundDiv r.numProcs r.numWorkers)
  else .ok r.numThreads

/-- `int(v)`, with 0 for a part of the time that is not given -/
def timePart (v : PyVal) : Except PyErr PyVal := if isNone v then .ok (.int 0) else Py.int v

/-- hours, minutes, seconds: from `time` (a number of hours, or `"h:m:s"`), else from the three parts, else 1:0:0 -/
def timeHMS (r : Raw) : Except PyErr (PyVal × PyVal × PyVal) :=
  if isNone r.hours && isNone r.minutes && isNone r.seconds then
    (if isNone r.time then .ok (.int 1, .int 0, .int 0)
     else if Py.isInt r.time || Py.isFloat r.time then .ok (r.time, .int 0, .int 0)
     else match r.time with
       | .str t => (match splitOn ':' t with
         | [a, b, c] => .ok (.str a, .str b, .str c)
         | _ => .error .valueError)
       | _ => .ok (.none, .none, .none))
  else if !isNone r.time then .error .valueError
  else Py.bind (timePart r.hours) fun h => Py.bind (timePart r.minutes) fun m => Py.bind (timePart r.seconds) fun s =>
    .ok (h, m, s)

def setIf (kw : List (Str × PyVal)) (k : Str) (v : PyVal) : List (Str × PyVal) :=
  if isNone v then kw else setKw kw k v

/-- memory and extra header resources: (the header keyword arguments, the `gigabytes` field) -/
def memKw (sched : Sched) (r : Raw) : Except PyErr (List (Str × PyVal) × PyVal) :=
  match sched with
  | .slurm =>
    if !isNone r.gigabytes && !isNone r.mem then .error .valueError
    else
      let kw := setIf (setIf r.extra (chars! "nodes") r.numNodes) (chars! "cpus-per-task") r.numProcs
      let mem := if !isNone r.gigabytes then r.gigabytes else r.mem
      let kw := if isNone mem then kw else setKw kw (chars! "mem") (memSpelling mem)
      let kw := if isNone r.memPerCpu then kw else setKw kw (chars! "mem-per-cpu") (memSpelling r.memPerCpu)
      .ok (kw, r.gigabytes)
  | _ =>
    if !isNone r.gigabytes && !isNone r.mem then .error .valueError
    else if isNone r.mem then .ok (r.extra, r.gigabytes)
    else Py.bind (Py.int r.mem) fun gb => .ok (r.extra, gb)

def outDir (r : Raw) : PyVal :=
  if isNone r.outputDirectory then .str (Py.pathJoin [r.home, chars! "Scratch", chars! "output"]) else r.outputDirectory

/-- the environment to activate: the one asked for; for `True` the running one unless the shell set-up already activates one -/
def condaEnvOf (r : Raw) : PyVal :=
  if r.condaEnv == .bool true then
    (if Py.truthy r.condaDefault &&
        (hasSub (chars! "conda activate") r.shellSetup || hasSub (chars! "mamba activate") r.shellSetup)
     then .bool false else r.condaDefault)
  else r.condaEnv

def condaSetup (r : Raw) : Except PyErr Str :=
  if Py.isStr (condaEnvOf r) then .ok (r.shellSetup ++ chars! "\nconda activate " ++ pyStr (condaEnvOf r))
  else if condaEnvOf r == .bool false then .ok r.shellSetup
  else .error .valueError

def headerOptions (sched : Sched) (kw : List (Str × PyVal)) : Str := joinSep ['\n'] (kw.map (headerLine sched))

/-- number of threads, second pass (only when still `None`, i.e. no processes given either) -/
def threads2 (r : Raw) (nt : PyVal) : Except PyErr PyVal :=
  if isNone nt then
    (if r.mpi then .ok (.int 1)
     else if isNone r.numWorkers then .ok r.numProcs
     else Py.bind (Py.floorDiv r.numProcs r.numWorkers) fun q => Py.max2 (.int 1) q)
  else .ok nt

/-- everything `gen_cluster_script` does to its keyword arguments before it decides which ids to grow:
the option record without `batch_ids`, `run_start`, `run_stop` -/
def resolve (sched : Sched) (r : Raw) : Except PyErr Opts :=
  Py.bind (threads1 r) fun nt =>
  Py.bind (timeHMS r) fun hms =>
  Py.bind (memKw sched r) fun kwgb =>
  Py.bind (condaSetup r) fun shellSetup =>
  Py.bind (threads2 r nt) fun nt =>
  .ok [
    (chars! "hours", hms.1), (chars! "minutes", hms.2.1), (chars! "seconds", hms.2.2), (chars! "gigabytes", kwgb.2), (chars! "name", .str r.name),
    (chars! "parent_dir", .str r.parentDir), (chars! "num_procs", r.numProcs), (chars! "num_threads", nt),
    (chars! "num_nodes", r.numNodes), (chars! "num_workers", r.numWorkers), (chars! "launcher", .str r.launcher),
    (chars! "setup", .str r.setup), (chars! "shell_setup", .str shellSetup), (chars! "pe", .str (if r.mpi then chars! "mpi" else chars! "smp")),
    (chars! "temp_gigabytes", r.tempGigabytes), (chars! "output_directory", outDir r), (chars! "working_directory", .str r.parentDir),
    (chars! "header_options", .str (headerOptions sched kwgb.1)), (chars! "debugging", r.debugging)]

/-- the keys `resolve` supplies -/
def baseFields : List Str :=
  [chars! "hours", chars! "minutes", chars! "seconds", chars! "gigabytes", chars! "name", chars! "parent_dir", chars! "num_procs", chars! "num_threads",
   chars! "num_nodes", chars! "num_workers", chars! "launcher", chars! "setup", chars! "shell_setup", chars! "pe", chars! "temp_gigabytes",
   chars! "output_directory", chars! "working_directory", chars! "header_options", chars! "debugging"]

/-- keys of the complete option record handed to `format` -/
def supplied (mode : Mode) : List Str :=
  chars! "batch_ids" :: (match mode with | .array => [chars! "run_start", chars! "run_stop"] | .single => []) ++ baseFields

/-! ### decision logic (extracted) -/

/-- ids in `1..B` without a result file -/
def missing (B : Nat) (done : List Nat) : List Nat := (List.range' 1 B).filter (fun i => !done.contains i)

def rangeList (a b : Int) : List Nat := List.range' a.toNat (b - a).toNat

structure Choice where
  amode : AMode
  ids : List Nat          -- the ids `opts["batch_ids"]` denotes
  val : PyVal             -- the Python object stored in `opts["batch_ids"]`
deriving Repr, DecidableEq

/-- the `batch_ids` / `array_mode` decision chain: `explicit` = the `batch_ids` argument, `B` = `crop.num_batches`,
`done` = the ids that have a result file (so `crop.num_results = done.length`) -/
def chooseIds (explicit : Option (List Nat)) (B : Nat) (done : List Nat) : Choice :=
  let c := Gen.scriptIdsChoice explicit.isSome done.length B
  let amode := if c.2 then AMode.all else AMode.part
  match c.1 with
  | 0 => ⟨amode, explicit.getD [], .tuple (explicit.getD [])⟩
  | 1 => ⟨amode, rangeList (Gen.scriptAllRangeStart B) (Gen.scriptAllRangeStop B),
          .range (Gen.scriptAllRangeStart B) (Gen.scriptAllRangeStop B)⟩
  | _ => ⟨amode, missing B done, .tuple (missing B done)⟩

def runStart (B len : Nat) : Int := Gen.scriptRunStart B len

def runStop (am : AMode) (B len : Nat) : Int :=
  match am with
  | .all => Gen.scriptRunStopAll B len
  | .part => Gen.scriptRunStopPartial B len

/-- the concatenated (still unformatted) template for a configuration -/
def assemble (sched : Sched) (mode : Mode) (am : AMode) : Str :=
  (Gen.scriptPieces sched.name mode.name am.name).flatten

/-- all sixteen extracted template constants -/
def allTemplates : List Str :=
  [Gen.tplSgeHeader, Gen.tplSgeArrayHeader, Gen.tplPbsHeader, Gen.tplPbsArrayHeader, Gen.tplSlurmHeader,
   Gen.tplSlurmArrayHeader, Gen.tplBase, Gen.tplArrayGrowKwargs, Gen.tplSgeGrowAll, Gen.tplPbsGrowAll,
   Gen.tplSlurmGrowAll, Gen.tplSgeGrowPartial, Gen.tplPbsGrowPartial, Gen.tplSlurmGrowPartial, Gen.tplGrowSingle,
   Gen.tplScriptEnd]

/-- the part of a template between the here-document marker and its terminator line: the embedded Python program -/
def pythonPart (t : Str) : Str := beforeSub (chars! "\nEOM\n") (afterSub (chars! "<< EOM\n") t) ++ ['\n']

def pythonTemplate (sched : Sched) (mode : Mode) (am : AMode) : Str := pythonPart (assemble sched mode am)

/-- how the `grow(...)` line of an array template picks its batch -/
inductive GrowArg where
  | direct                  -- `grow($VAR, …)`: task t grows batch t
  | indexed (off : Nat)     -- `batch_ids = {batch_ids}` … `grow(batch_ids[$VAR - off], …)`
  | unknown
deriving Repr, DecidableEq

def growArgOf (t var : Str) : GrowArg :=
  if hasSub (chars! "    grow($" ++ var ++ chars! ", **grow_kwargs)\n") t then .direct
  else if hasSub (chars! "    batch_ids = {batch_ids}\n") t then
    (if hasSub (chars! "    grow(batch_ids[$" ++ var ++ chars! " - 1], **grow_kwargs)\n") t then .indexed 1
     else if hasSub (chars! "    grow(batch_ids[$" ++ var ++ chars! "], **grow_kwargs)\n") t then .indexed 0
     else .unknown)
  else .unknown

/-- does a single-mode template grow exactly the tuple it binds to `batch_ids`? -/
def growsBoundIds (t : Str) : Bool :=
  hasSub (chars! "    batch_ids = {batch_ids}\n    crop.grow(batch_ids, ") t

structure Script where
  sched : Sched
  mode : Mode
  amode : AMode
  ids : List Nat
  dynamic : Bool          -- single mode without explicit ids: the job itself calls `crop.missing_results()`
  runStart : Int
  runStop : Int
  template : Str
  opts : Opts
  lenIds : Nat            -- Python's `len(opts["batch_ids"])` at the end (22 for the dynamic string)
deriving Repr

def mkScript (sched : Sched) (mode : Mode) (explicit : Option (List Nat)) (B : Nat) (done : List Nat)
    (base : Opts) : Script :=
  let ch := chooseIds explicit B done
  let dyn := decide (mode = .single) && Gen.scriptSingleDynamic explicit.isSome
  let bval := if dyn then PyVal.str Gen.scriptSingleDynamicIds else ch.val
  let rs := runStart B ch.ids.length
  let re := runStop ch.amode B ch.ids.length
  { sched := sched, mode := mode, amode := ch.amode, ids := ch.ids, dynamic := dyn, runStart := rs, runStop := re,
    template := assemble sched mode ch.amode,
    opts := (chars! "batch_ids", bval) ::
      (match mode with
       | .array => [(chars! "run_start", PyVal.int rs), (chars! "run_stop", PyVal.int re)]
       | .single => []) ++ base,
    lenIds := if dyn then Gen.scriptSingleDynamicIds.length else ch.ids.length }

/-- is the PBS size-1 rewrite applied to the formatted text? -/
def Script.rewritten (s : Script) : Bool := Gen.scriptPbsRewrite (decide (s.sched = .pbs)) s.lenIds

/-- the PBS size-1 rewrite: a chain of `str.replace` calls on the formatted text -/
def Script.rewrite (s : Script) (txt : String) : String :=
  if s.rewritten then Gen.scriptPbsReplacements.foldl (fun acc pr => acc.replace (String.ofList pr.1) (String.ofList pr.2)) txt else txt

/-- the script text `gen_cluster_script` returns -/
def Script.text (s : Script) : Option String :=
  match render (parseTpl s.template) s.opts with
  | none => none
  | some t => some (s.rewrite (String.ofList t))

/-- the embedded Python program (before the shell substitutes the task variable) -/
def Script.python (s : Script) : String :=
  s.rewrite (String.ofList (renderD (parseTpl (pythonPart s.template)) s.opts))

def Script.growArg (s : Script) : GrowArg := growArgOf s.template s.sched.var

/-! ### the same text through the TRANSLATED body of `gen_cluster_script` (`Gen.gcsOpts`, `Gen.gcsTail`) -/

/-- `Gen.gcsOpts` on an argument record: the `opts` mapping as the translated option handling computes it -/
def genOpts (scheduler mode : Str) (r : Raw) : Except PyErr Opts :=
  Gen.gcsOpts scheduler mode r.launcher r.setup r.shellSetup r.numProcs r.numThreads r.numNodes r.numWorkers r.mem
    r.memPerCpu r.gigabytes r.time r.hours r.minutes r.seconds r.condaEnv r.tempGigabytes r.outputDirectory r.debugging
    r.mpi r.extra r.home r.condaDefault r.name r.parentDir

/-- `Gen.gcsTail` for a crop of `B` batches with results `done`: (unformatted script, completed `opts`) -/
def genTail (scheduler mode : Str) (explicit : Option (List Nat)) (B : Nat) (done : List Nat) (base : Opts) :
    Except PyErr (Str × Opts) :=
  Gen.gcsTail scheduler mode explicit done.length B (missing B done) base

/-- `len(opts["batch_ids"])` (0 where Python would raise) -/
def lenBatchIds (o : Opts) : Int :=
  match Py.lenOf (lookup o (chars! "batch_ids")) with
  | .ok n => n
  | .error _ => 0

/-- the script text as the translated body computes it (`scheduler` as given by the caller, any case) -/
def genText (scheduler mode : Str) (explicit : Option (List Nat)) (B : Nat) (done : List Nat) (r : Raw) :
    Except PyErr (Option String) :=
  Py.bind (genOpts scheduler mode r) fun base =>
  Py.bind (genTail (Py.lower scheduler) mode explicit B done base) fun so =>
  .ok ((render (parseTpl so.1) so.2).map fun t =>
    let txt := String.ofList t
    if Gen.scriptPbsRewrite (Py.lower scheduler == chars! "pbs") (lenBatchIds so.2) then
      Gen.scriptPbsReplacements.foldl (fun acc pr => acc.replace (String.ofList pr.1) (String.ofList pr.2)) txt
    else txt)

/-- **abstract semantics, array mode**: the batch id grown by the task whose scheduler index is `t`
(`none`: `t` is outside the array range, or the script is not an array script / its grow line is not understood) -/
def taskBatch (s : Script) (t : Nat) : Option Nat :=
  if s.mode = .array ∧ s.runStart ≤ (t : Int) ∧ (t : Int) ≤ s.runStop then
    match s.growArg with
    | .direct => some t
    | .indexed off => if off ≤ t then s.ids[t - off]? else none
    | .unknown => none
  else none

/-- **abstract semantics, single mode**: the ids grown by the one job, given the ids missing when it runs -/
def singleIds (s : Script) (missingNow : List Nat) : List Nat :=
  if s.mode = .single ∧ growsBoundIds s.template then (if s.dynamic then missingNow else s.ids) else []

/-- the array tasks the scheduler starts: `run_start..run_stop` -/
def Script.tasks (s : Script) : List Nat :=
  match s.mode with
  | .array => List.range' s.runStart.toNat (s.runStop + 1 - s.runStart).toNat
  | .single => []

/-! ### `xyzpy-grow` (xyzpy_grow_cli.main), through its translated effect skeleton `Gen.cliSk` -/

/-- the batches a run of `xyzpy-grow <name>` grows on a crop that is sown (`prepared`) or not, has `B` batches and
results `done`, when no step fails on its own: those the `grow_missing` effect of the skeleton stands for (with the
`num_workers` / `verbosity` of the command line), nothing when the skeleton never reaches it; and whether it raised -/
def cliRun (prepared : Bool) (B : Nat) (done : List Nat) : List Nat × Bool :=
  let r := Gen.cliSk (fun _ => false) false true prepared []
  (if r.1.any (fun e => match e with | .growMissing _ _ => true | _ => false) then missing B done else [], r.2.isSome)

end Scr
