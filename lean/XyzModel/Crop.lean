import XyzModel.Batch
import XyzModel.Core
import XyzModel.ToDs
/-!
# Coarse (operation-level) model of a `Crop` on disk (xyzpy/gen/cropping.py)

State = the current `Crop` object (`Obj`: the fields `batchsize`, `num_batches`, `_batch_remainder`, `shuffle`)
and the crop directory (`Dir`: info file, batch files, result files), or no directory at all.
Operations: construct/reload, sow (grids and case lists), grow (any ids, the function may fail on chosen
settings), check_bad, progress queries, reap with every option (grow_missing, deleting and corrupting a result are
made from these in `XyzModel/Drv.lean`).
`P seed n` is the permutation `random.shuffle` produces for `(seed, n)` (supplied by the harness as data).
Results are polymorphic (`β`); `f loc` is the swept function's value at location `loc`.
-/
namespace Crop
open Core

abbrev Perms := Nat → Nat → List Nat

inductive Err where
  | notReady        -- XYZError: crop is not ready to reap
  | value           -- choose_batch_settings rejected the request
  | type            -- a field that should be a number is None
  | missingFile     -- a file that was needed is not there
  | badFile         -- a file could not be unpickled / has no data
  | fnRaised        -- the swept function raised
  | stopIteration   -- the reaper ran out of results
  | notAllReaped    -- results were left over
  | noResultForNan  -- allow_incomplete needs at least one finished batch
  | overlap
deriving Repr, DecidableEq

structure Info where
  bs : Nat
  nb : Nat
  rem : Nat
  shuffle : Nat
  sweep : Sweep
deriving Repr

inductive ResFile (β : Type) where
  | good (rs : List β)
  | bad
deriving Repr

structure Dir (β : Type) where
  info : Option Info := none
  batches : List (Nat × List (List Nat)) := []
  results : List (Nat × ResFile β) := []

structure Obj where
  bs : Option Nat := none
  nb : Option Nat := none
  rem : Option Nat := none
  shuffle : Nat := 0
deriving Repr

structure St (β : Type) where
  obj : Obj := {}
  dir : Option (Dir β) := none

/-! ### association lists keyed by batch id -/
def lookup {γ} (l : List (Nat × γ)) (k : Nat) : Option γ := (l.find? (·.1 == k)).map (·.2)
def insert {γ} (l : List (Nat × γ)) (k : Nat) (v : γ) : List (Nat × γ) := (l.filter (·.1 != k)) ++ [(k, v)]
def erase {γ} (l : List (Nat × γ)) (k : Nat) : List (Nat × γ) := l.filter (·.1 != k)
def enumFrom {γ} : Nat → List γ → List (Nat × γ)
  | _, [] => []
  | k, x :: xs => (k, x) :: enumFrom (k + 1) xs
/-- files are numbered from 1 -/
def enumFrom1 {γ} (l : List γ) : List (Nat × γ) := enumFrom 1 l

/-! ### sowing -/

def insertByName (x : String × List Nat) : List (String × List Nat) → List (String × List Nat)
  | [] => [x]
  | y :: ys => if x.1 < y.1 then x :: y :: ys else y :: insertByName x ys

/-- `sorted(combos, key=name)` -/
def sortByName (s : Sweep) : Sweep :=
  let sorted := (s.comboArgs.zip s.comboVals).foldl (fun acc x => insertByName x acc) []
  { s with comboArgs := sorted.map (·.1), comboVals := sorted.map (·.2) }

def seedStrategy (P : Perms) (seed n : Nat) : Strategy :=
  if seed = 0 then .seq else .shuffled (P seed n)

/-- the order in which the Sower receives the settings -/
def sowStream (P : Perms) (sw : Sweep) (seed : Nat) : List (List Nat) :=
  (runLinear (fun l => l) sw.locs (seedStrategy P seed sw.locs.length)).1

def syncFromDisk {β} (s : St β) : St β :=
  match s.dir with
  | some { info := some i, .. } => { s with obj := { s.obj with bs := some i.bs, nb := some i.nb, rem := some i.rem } }
  | _ => s

/-- `Crop(name=..., parent_dir=..., batchsize=..., num_batches=..., shuffle=...)` with autoload -/
def opNew {β} (s : St β) (bs nb : Option Nat) (shuffle : Nat) : St β :=
  syncFromDisk { s with obj := { bs := bs, nb := nb, rem := none, shuffle := shuffle } }

/-- attribute updates made at the top of `sow_combos` (`combos = true`; `shuffleArg = some v`: the call's `shuffle`
argument, whose default `False` is `some 0`; `none`: `shuffle=None` was given, the crop keeps its own) and of
`sow_cases` (`combos = false`; it has no `shuffle` argument).  `Refine.sowAttrs_combos_refines` / `sowAttrs_cases_refines` tie this to
the translated heads of the two methods. -/
def sowAttrs (o : Obj) (combos : Bool) (shuffleArg : Option Nat) (bs nb : Option Nat) : Obj :=
  let o := if bs.isSome then { o with bs := bs } else o
  let o := if nb.isSome then { o with nb := nb } else o
  match combos, shuffleArg with
  | true, some sh => { o with shuffle := sh }
  | _, _ => o

/-- the shuffle setting handed to the runner that drives the Sower (extracted from the two methods) -/
def runnerShuffle (combos : Bool) (shuffleArg : Option Nat) (o : Obj) : Nat :=
  let self? : Option Int := some (o.shuffle : Int)
  let r := if combos then Gen.sowCombosRunnerShuffle (shuffleArg.map Int.ofNat) self? else Gen.sowCasesRunnerShuffle self?
  (r.getD 0).toNat

/-- `sow_combos` (`combos = true`, combos sorted by name) and `sow_cases` (`combos = false`) -/
def opSow {β} (P : Perms) (s : St β) (sw : Sweep) (combos : Bool) (shuffleArg : Option Nat) (bs nb : Option Nat) :
    Except Err (St β) :=
  let o := sowAttrs s.obj combos shuffleArg bs nb
  let sw := if combos then sortByName sw else sw
  let n := sw.locs.length
  match Batch.chooseBatch n o.bs o.nb o.rem with
  | .error _ => .error .value
  | .ok c =>
    let runSh := runnerShuffle combos shuffleArg o
    let o := { o with bs := some c.batchsize, nb := some c.numBatches, rem := some c.remainder }
    let d := s.dir.getD {}
    let info : Info := { bs := c.batchsize, nb := c.numBatches, rem := c.remainder, shuffle := o.shuffle, sweep := sw }
    let newB := enumFrom1 (Batch.sow c (sowStream P sw runSh))
    let batches := newB.foldl (fun acc kv => insert acc kv.1 kv.2) d.batches
    .ok { obj := o, dir := some { d with info := some info, batches := batches } }

/-! ### growing -/

/-- grow one batch: load it, evaluate every case, write the tuple of results only if all returned -/
def growOne {β} (f : List Nat → β) (fails : List Nat → Bool) (d : Dir β) (i : Nat) : Except Err (Dir β) :=
  match lookup d.batches i with
  | none => .error .missingFile
  | some b =>
    if b.isEmpty then .error .badFile
    else if b.any fails then .error .fnRaised
    else .ok { d with results := insert d.results i (.good (b.map f)) }

/-- grow a list of ids in order, stopping at the first failure (earlier batches stay grown) -/
def growMany {β} (f : List Nat → β) (fails : List Nat → Bool) : Dir β → List Nat → Dir β × Option Err
  | d, [] => (d, none)
  | d, i :: is =>
    match growOne f fails d i with
    | .ok d' => growMany f fails d' is
    | .error e => (d, some e)

/-! ### progress -/

structure Progress where
  sown : Int
  results : Int
  deriving Repr

/-- `calc_progress`: syncs the object from disk and counts files by name -/
def calcProgress {β} (s : St β) : St β × Progress :=
  match s.dir with
  | some d =>
    if d.info.isSome then (syncFromDisk s, { sown := d.batches.length, results := d.results.length })
    else (s, { sown := -1, results := -1 })
  | none => (s, { sown := -1, results := -1 })

def isReady {β} (s : St β) : St β × Bool :=
  let (s', p) := calcProgress s
  (s', Gen.isReady p.results p.sown)

def hasResult {β} (s : St β) (i : Nat) : Bool :=
  match s.dir with
  | some d => (lookup d.results i).isSome
  | none => false

/-- `missing_results` (needs `num_batches` to be known) -/
def missingResults {β} (s : St β) : St β × Except Err (List Nat) :=
  let (s', _) := calcProgress s
  match s'.obj.nb with
  | none => (s', .error .type)
  | some nb => (s', .ok (((List.range nb).map (· + 1)).filter fun i => !hasResult s' i))

/-- `check_bad(delete_bad=True)`: a result is bad if unreadable or of the wrong length -/
def checkBad {β} (d : Dir β) : Except Err (Dir β × List Nat) :=
  d.results.foldl (fun acc kv =>
    match acc with
    | .error e => .error e
    | .ok (d', bad) =>
      match lookup d.batches kv.1 with
      | none => .error .missingFile
      | some b =>
        let isBad := match kv.2 with
          | .bad => true
          | .good rs => rs.length != b.length
        if isBad then .ok ({ d' with results := erase d'.results kv.1 }, bad ++ [kv.1]) else .ok (d', bad))
    (.ok (d, []))

/-! ### reaping -/

/-- `check_ready_to_reap` -/
def readyGate {β} (s : St β) (allowIncomplete wait : Bool) : St β × Bool :=
  if allowIncomplete || wait then (s, true) else isReady s

/-- `calc_clean_up_default_res`: clean-up flag -/
def cleanUpResolved (cleanUp : Option Bool) (allowIncomplete : Bool) : Bool :=
  Gen.cleanUpDefault (cleanUp.isNone) (cleanUp.getD false) allowIncomplete

def ResFile.isBad {β} : ResFile β → Bool
  | .bad => true
  | .good _ => false

/-- the all-missing stand-in, made from the first entry of some finished result (the first listed here; any
unreadable result file makes the reap fail sooner or later, so which one is picked does not matter) -/
def allNanResult {β} (nanLike : β → β) (d : Dir β) : Except Err β :=
  match d.results with
  | [] => .error .noResultForNan
  | (_, r) :: _ =>
    if d.results.any (fun kv => kv.2.isBad) then .error .badFile
    else match r with
      | .good (x :: _) => .ok (nanLike x)
      | _ => .error .badFile

/-- one step of the Reaper's stream: load result file `i0+1`, or substitute placeholders of the batch's size -/
def reapStep {β} (o : Obj) (d : Dir β) (dflt : Option β) (acc : Except Err (List β)) (i0 : Nat) : Except Err (List β) :=
  match acc with
  | .error e => .error e
  | .ok stream =>
    match lookup d.results (i0 + 1) with
    | some (.good rs) => if rs.isEmpty then .error .badFile else .ok (stream ++ rs)
    | some .bad => .error .badFile
    | none =>
      match dflt with
      | none => .error .missingFile
      | some ph =>
        -- the stand-in has the length of the sown batch file it replaces
        match lookup d.batches (i0 + 1) with
        | some b => .ok (stream ++ List.replicate b.length ph)
        | none => .error .missingFile

/-- the Reaper's stream: result files 1..nb in order, a missing one replaced by placeholders of the batch's size -/
def reapStream {β} (o : Obj) (d : Dir β) (nb : Nat) (dflt : Option β) : Except Err (List β) :=
  (List.range nb).foldl (reapStep o d dflt) (.ok [])

/-- feed the stream to `combo_runner_core` under the stored shuffle: call `k` receives `stream[k]`, then the
(index, result) pairs are sorted back -/
def reorder {β} (P : Perms) (seed n : Nat) (stream : List β) : Except Err (List β) :=
  if stream.length < n then .error .stopIteration
  else if stream.length > n then .error .notAllReaped
  else if seed = 0 then .ok stream
  else .ok (((P seed n).zip stream).mergeSort keyLE |>.map Prod.snd)

structure ReapOpts where
  allowIncomplete : Bool := false
  wait : Bool := false
  cleanUp : Option Bool := none
deriving Repr

/-- linear (enumeration-order) results of a reap, before nesting; the state reflects object syncing only -/
def reapLinear {β} (P : Perms) (nanLike : β → β) (s : St β) (o : ReapOpts) : Except Err (St β × Info × List β) :=
  let (s1, ready) := readyGate s o.allowIncomplete o.wait
  if !ready then .error .notReady else
  match s1.dir with
  | none => .error .missingFile
  | some d =>
    let dflt? : Except Err (Option β) :=
      if o.allowIncomplete then (allNanResult nanLike d).map some else .ok none
    match dflt? with
    | .error e => .error e
    | .ok dflt =>
      match d.info with
      | none => .error .missingFile
      | some info =>
        match reapStream s1.obj d info.nb (if o.wait then none else dflt) with
        | .error e => .error e
        | .ok stream =>
          match reorder P info.shuffle info.sweep.locs.length stream with
          | .error e => .error e
          | .ok results => .ok (s1, info, results)

/-- `Crop.reap_combos`: the nested tuple, and the crop directory removed when clean-up applies -/
def reapRaw {β} (P : Perms) (nanLike : β → β) (s : St β) (o : ReapOpts) : Except Err (St β × Nest β) :=
  match reapLinear P nanLike s o with
  | .error e => .error e
  | .ok (s1, info, results) =>
    let out := match results with
      | r :: _ => processNested info.sweep results (nanLike r)
      | [] => Nest.node []
    let s2 := if cleanUpResolved o.cleanUp o.allowIncomplete then { s1 with dir := none } else s1
    .ok (s2, out)

/-- `reap_combos_to_ds` / `reap_runner`: the reaped results labelled with the runner's description.
Results are lists of outputs; the placeholder of a missing batch is `nan_like_result` of a whole reference result. -/
def reapToDs {β} (P : Perms) (nanLike : β → β) (dfl : β) (d : ToDs.Desc) (s : St (List β)) (o : ReapOpts) :
    Except Err (St (List β) × ToDs.DS β) :=
  match reapLinear P (fun r => r.map nanLike) s o with
  | .error e => .error e
  | .ok (s1, info, results) =>
    let s2 := if cleanUpResolved o.cleanUp o.allowIncomplete then { s1 with dir := none } else s1
    .ok (s2, ToDs.labelLinear d dfl nanLike info.sweep results)

/-- DataFrame form: one row per setting, in enumeration order -/
def reapToDf {β} (P : Perms) (nanLike : β → β) (d : ToDs.Desc) (s : St (List β)) (o : ReapOpts) :
    Except Err (St (List β) × List (ToDs.Row β)) :=
  match reapLinear P (fun r => r.map nanLike) s o with
  | .error e => .error e
  | .ok (s1, info, results) =>
    let s2 := if cleanUpResolved o.cleanUp o.allowIncomplete then { s1 with dir := none } else s1
    .ok (s2, (info.sweep.locs.zip results).map fun (loc, r) =>
      { loc := loc, extra := d.constants ++ d.attrs, outputs := r })

/-! ### crops attached to a farmer (Runner / Harvester / Sampler): order of delivery and deletion -/

inductive FarmerKind where
  | raw | runner | harvester | sampler
deriving Repr, DecidableEq

/-- failures injected by the environment: the output description does not fit the results (dataset / dataframe
construction raises); syncing with the farmer's store fails (merge conflict, save error) -/
structure Env where
  labelFails : Bool := false
  deliverFails : Bool := false
deriving Repr

inductive FErr where
  | gather (e : Err)     -- check_ready / loading results failed
  | label                -- results could not be labelled
  | deliver              -- add_ds / add_df failed
deriving Repr

structure FOut (β : Type) where
  /-- the state after the attempt, *including* whatever was already done when an error occurred -/
  st : St β
  res : Except FErr (List β)
  /-- did the farmer's store receive the data -/
  delivered : Bool

/-- does this farmer's reap postpone the deletion of the crop until its store has the data? -/
def defers : FarmerKind → Bool
  | .harvester => Gen.harvestDefersCleanup
  | .sampler => Gen.samplesDefersCleanup
  | _ => false

def removeDir {β} (s : St β) : St β := { s with dir := none }

/-- `Crop.reap` for each farmer kind, as a sequence of effects: gather → label → [clean up] → deliver → [clean up].
`late` is whatever *other processes* do to the crop directory while a Harvester / Sampler syncs its store (growers
finishing further batches): it happens after the results were gathered and before the deferred clean-up is decided. -/
def reapFarmer {β} (P : Perms) (nanLike : β → β) (k : FarmerKind) (env : Env) (s : St β) (o : ReapOpts)
    (late : Option (Dir β) → Option (Dir β) := id) : FOut β :=
  let outer := cleanUpResolved o.cleanUp o.allowIncomplete
  let inner : ReapOpts := if defers k then { o with cleanUp := some false } else o
  match reapLinear P nanLike s inner with
  | .error e => { st := s, res := .error (.gather e), delivered := false }
  | .ok (s1, _, results) =>
    if k != .raw && env.labelFails then { st := s1, res := .error .label, delivered := false } else
    let s2 := if cleanUpResolved inner.cleanUp inner.allowIncomplete then removeDir s1 else s1
    match k with
    | .raw => { st := s2, res := .ok results, delivered := false }
    | .runner => { st := s2, res := .ok results, delivered := true }
    | _ =>
      let s2 := { s2 with dir := late s2.dir }
      if env.deliverFails then { st := s2, res := .error .deliver, delivered := false }
      else
        let s3 := if defers k && outer then removeDir s2 else s2
        { st := s3, res := .ok results, delivered := true }

end Crop
