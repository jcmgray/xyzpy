import XyzModel.Gen.Extracted
/-!
# `parse_var_names` / `parse_var_dims` (xyzpy/gen/prepare.py): the accepted spellings of an output description

Python values are modelled two levels deep, which is what the parser looks at: an `Atom` is a `str` or a tuple of
`str`; an element of a list/tuple spelling is a `str` or a tuple of atoms (so `('a', 't')` is one value, whether it is
meant as the dimensions `(a, t)` of one output or as the pair *output `a` ↦ dimension `t`* — the parser decides, and
the model decides the same way).
-/
namespace VarDims

inductive Atom where
  | s (x : String)
  | t (l : List String)
deriving Repr, DecidableEq

inductive Elem where
  | s (x : String)
  | t (l : List Atom)
deriving Repr

/-- the spellings of `var_dims` -/
inductive Spelling where
  | none                                   -- `None`
  | str (d : String)                       -- `'t'`
  | list (elems : List Elem)               -- list / tuple
  | dict (items : List (Atom × Atom))      -- dict (keys unique by construction), in insertion order
deriving Repr

inductive Err where
  | value                                  -- ValueError
deriving Repr, DecidableEq

/-- normal form: output name ↦ its dimensions, in `var_names` order -/
abbrev Mapping := List (String × List Atom)

/-- `{k: () for k in var_names}`: first occurrence of each name, empty dimensions -/
def dedup : List String → List String
  | [] => []
  | x :: xs => x :: (dedup xs).filter (· != x)

/-- `v = (v,) if isinstance(v, str) else tuple(v)` for a value given as an atom -/
def dimsOfAtom : Atom → List Atom
  | .s d => [.s d]
  | .t l => l.map .s

/-- the same for an element of a list spelling -/
def dimsOfElem : Elem → List Atom
  | .s d => [.s d]
  | .t l => l

/-- `new_var_dims[k] = v` (the key is known to be present) -/
def assign (m : Mapping) (k : String) (v : List Atom) : Mapping :=
  m.map fun p => if p.1 == k then (p.1, v) else p

/-- one pass of the update loop for the key `k` (a name, or a tuple of names sharing the dimensions) -/
def applyKey (names : List String) (m : Mapping) (k : Atom) (v : List Atom) : Except Err Mapping :=
  match k with
  | .s x => if names.contains x then .ok (assign m x v) else .error .value
  | .t subs => subs.foldl (fun acc sub =>
      match acc with
      | .error e => .error e
      | .ok m => if names.contains sub then .ok (assign m sub v) else .error .value) (.ok m)

/-- the update loop over `var_dims.items()` -/
def applyItems (names : List String) (m : Mapping) (items : List (Atom × List Atom)) : Except Err Mapping :=
  items.foldl (fun acc kv =>
    match acc with
    | .error e => .error e
    | .ok m => applyKey names m kv.1 kv.2) (.ok m)

/-- `dict(pairs)`: a repeated key keeps its first position and takes the last value -/
def dictOf (pairs : List (Atom × List Atom)) : List (Atom × List Atom) :=
  pairs.foldl (fun acc kv =>
    if acc.any (·.1 == kv.1) then acc.map (fun p => if p.1 == kv.1 then (p.1, kv.2) else p) else acc ++ [kv]) []

/-- the first of the three tests by which `isCorrespondence` (below) decides whether a list/tuple spelling stands in
one-to-one correspondence with `var_names`:
`any(isinstance(x, str) or (len(x) == 0) or (x[0] not in var_names) for x in var_dims)` -/
def elemIsStr : Elem → Bool
  | .s _ => true
  | .t _ => false

def elemIsEmpty : Elem → Bool
  | .s x => x.isEmpty
  | .t l => l.isEmpty

/-- `x[0] in var_names` (a tuple is never equal to a name; for a string `x[0]` is its first character) -/
def elemFirstInNames (names : List String) : Elem → Bool
  | .s x => names.contains (String.singleton (x.toList.headD ' '))
  | .t (.s k :: _) => names.contains k
  | .t _ => false

/-- the element test and its quantifier are read off the source (`Gen.varDimsElemCorr`, `Gen.varDimsQuantAny`) -/
def isCorrespondence (names : List String) (elems : List Elem) : Bool :=
  let p := fun e => Gen.varDimsElemCorr (elemIsStr e) (elemIsEmpty e) (elemFirstInNames names e)
  if Gen.varDimsQuantAny then elems.any p else elems.all p

/-- an element read as a (key, value) pair by `dict(var_dims)`; anything but a 2-sequence is a ValueError -/
def asPair : Elem → Except Err (Atom × List Atom)
  | .t [k, v] => .ok (k, dimsOfAtom v)
  | _ => .error .value

def asPairs : List Elem → Except Err (List (Atom × List Atom))
  | [] => .ok []
  | e :: es =>
    match asPair e, asPairs es with
    | .ok p, .ok ps => .ok (p :: ps)
    | _, _ => .error .value

/-- `parse_var_dims(var_dims, var_names)`; `names = none` is `var_names=None` (automatic Dataset output) -/
def parse (names : Option (List String)) (sp : Spelling) : Except Err Mapping :=
  match names with
  | none =>
    match sp with
    | .none => .ok []
    | _ => .error .value
  | some names =>
    let m0 : Mapping := (dedup names).map fun k => (k, [])
    match sp with
    | .none => .ok m0
    | .str d =>
      if d.isEmpty then .ok m0
      else if Gen.varDimsStrRefused names.length then .error .value
      else applyItems names m0 [(.s (names.headD ""), [.s d])]
    | .list elems =>
      if elems.isEmpty then .ok m0
      else if isCorrespondence names elems then
        if elems.length != names.length then .error .value
        else applyItems names m0 (dictOf ((names.zip elems).map fun p => (.s p.1, dimsOfElem p.2)))
      else
        match asPairs elems with
        | .error e => .error e
        | .ok pairs => applyItems names m0 (dictOf pairs)
    | .dict items =>
      if items.isEmpty then .ok m0
      else applyItems names m0 (items.map fun p => (p.1, dimsOfAtom p.2))

/-- `parse_var_names` -/
inductive NamesSpelling where
  | none
  | str (x : String)
  | seq (l : List String)

def parseNames : NamesSpelling → List (Option String)
  | .none => [Option.none]
  | .str x => [some x]
  | .seq l => l.map some

end VarDims
