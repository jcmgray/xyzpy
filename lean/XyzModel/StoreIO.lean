import XyzModel.Dataset
import XyzModel.Gen.Extracted
/-!
# `xyzpy/manage.py`: file names, attribute rewriting, `save_ds` / `load_ds` on a store

* `autoAddExt` — `auto_add_extension`: the extracted rule (`Gen.extRuleSubstring`: substring test against every value
  of the extracted table `Gen.engineExt`) and the extracted number of appended extensions (`Gen.extAppendCount`);
* every *path resolution* is explicit and comes from an extracted anchor: which path `save_ds` writes, which
  `load_ds` reads, which the Harvester probes (`os.access` / `os.path.isfile` / `os.path.exists`) and removes, and
  which `save_merge_ds` probes and loads;
* `coerceAttrs` — the rewriting of `None` / `True` / `False` attributes to strings for the netCDF engines;
* a `Store` maps paths to files; a file remembers the engine that wrote it (reading it with another engine fails).
  The engines' encoders/decoders are NOT modelled: `saveVia`/`loadVia` take an abstract `Codec`, and the round-trip
  theorem (C14) carries the explicit assumption that decoding inverts encoding.
-/
namespace StoreIO
open DS

inductive Engine where
  | h5netcdf | netcdf4 | joblib | zarr
deriving DecidableEq, Repr, Inhabited

def Engine.key : Engine → String
  | .h5netcdf => "h5netcdf" | .netcdf4 => "netcdf4" | .joblib => "joblib" | .zarr => "zarr"

/-- `_engine_extensions[engine]` (`none` = `KeyError`) -/
def extOf (e : Engine) : Option String := alookup Gen.engineExt e.key

def isInfix (p : List Char) : List Char → Bool
  | [] => p.isEmpty
  | c :: r => p.isPrefixOf (c :: r) || isInfix p r

def isSuffix (p s : List Char) : Bool := p.reverse.isPrefixOf s.reverse

/-- the guard of `auto_add_extension`: does the name already carry one of the known extensions? -/
def hasKnownExt (name : String) : Bool :=
  Gen.engineExt.any fun kv =>
    if Gen.extRuleSubstring then isInfix kv.2.toList name.toList else isSuffix kv.2.toList name.toList

def appendN (s ext : String) : Nat → String
  | 0 => s
  | n + 1 => appendN (s ++ ext) ext n

/-- `auto_add_extension(file_name, engine)` -/
def autoAddExt (name : String) (e : Engine) : String :=
  if hasKnownExt name then name else appendN name ((extOf e).getD "") Gen.extAppendCount

/-! ### path resolution (every `if` is an extracted anchor) -/

/-- the path `save_ds(ds, name, engine)` writes -/
def savePath (name : String) (e : Engine) : String := if Gen.saveDsExtends then autoAddExt name e else name
/-- the path `load_ds(name, engine)` reads -/
def loadPath (name : String) (e : Engine) : String := if Gen.loadDsExtends then autoAddExt name e else name

/-- `Harvester.load_full_ds`: the path handed to `os.access(·, W_OK)` … -/
def hvAccessPath (name : String) (e : Engine) : String := if Gen.loadFullAccessExtended then autoAddExt name e else name
/-- … and to `os.path.isfile` -/
def hvIsfilePath (name : String) (e : Engine) : String := if Gen.loadFullIsfileExtended then autoAddExt name e else name
/-- `Harvester.save_full_ds`: the path whose old content goes (in the source the target of `os.replace`), as probed … -/
def hvExistsPath (name : String) (e : Engine) : String := if Gen.saveFullExistsExtended then autoAddExt name e else name
/-- … and as removed by `Harvest.saveFullNew` (both anchors read that one target) -/
def hvRemovePath (name : String) (e : Engine) : String := if Gen.saveFullRemoveExtended then autoAddExt name e else name
/-- `Harvester.delete_ds`: the path removed -/
def hvDeletePath (name : String) (e : Engine) : String := if Gen.deleteRemoveExtended then autoAddExt name e else name

/-- `save_merge_ds(ds, fname, engine=e)`: the path handed to `os.path.exists` … -/
def smExistsPath (name : String) (e : Engine) : String := if Gen.saveMergeExistsExtended then autoAddExt name e else name
/-- … the engine the existing file is loaded with (`load_ds(fname)` alone means the default engine) … -/
def smLoadEngine (e : Engine) : Engine := if Gen.saveMergeLoadsWithEngine then e else .h5netcdf
/-- … hence the path it is loaded from -/
def smLoadPath (name : String) (e : Engine) : String := loadPath name (smLoadEngine e)

/-! ### attributes -/

def coerceAttr : Attr → Attr
  | .none => .str Gen.attrNoneStr
  | .bool true => .str Gen.attrTrueStr
  | .bool false => .str Gen.attrFalseStr
  | a => a

def coercesAttrs (e : Engine) : Bool := !Gen.attrExempt.contains e.key

/-- what `save_ds` does to the attributes (in place, so the caller's dataset changes as well) -/
def coerceAttrs (e : Engine) (d : Dataset) : Dataset :=
  if coercesAttrs e then { d with attrs := d.attrs.map fun kv => (kv.1, coerceAttr kv.2) } else d

/-! ### stores -/

abbrev GStore (β : Type) := List (String × β)

def sset {β} : GStore β → String → β → GStore β
  | [], k, x => [(k, x)]
  | (k', y) :: r, k, x => if k' = k then (k, x) :: r else (k', y) :: sset r k x

def serase {β} : GStore β → String → GStore β
  | [], _ => []
  | (k', y) :: r, k => if k' = k then serase r k else (k', y) :: serase r k

def shas {β} (s : GStore β) (k : String) : Bool := (alookup s k).isSome

/-- an engine's writer and reader, abstractly -/
structure Codec (β : Type) where
  enc : Engine → Dataset → β
  dec : Engine → β → Option Dataset

/-- the assumption under which C14's round trip is proved: reading inverts writing -/
def Codec.Inverse {β} (c : Codec β) : Prop := ∀ e d, c.dec e (c.enc e d) = some d

inductive IOErr where
  | notFound      -- FileNotFoundError
  | badFormat     -- the file cannot be decoded with this engine (OSError / UnpicklingError …)
deriving DecidableEq, Repr

def saveVia {β} (c : Codec β) (s : GStore β) (name : String) (e : Engine) (d : Dataset) : GStore β :=
  sset s (savePath name e) (c.enc e (coerceAttrs e d))

def loadVia {β} (c : Codec β) (s : GStore β) (name : String) (e : Engine) : Except IOErr Dataset :=
  match alookup s (loadPath name e) with
  | none => .error .notFound
  | some f => match c.dec e f with
    | some d => .ok d
    | none => .error .badFormat

/-- a file of the executable model: the dataset tagged with the engine that wrote it -/
structure File where
  engine : Engine
  ds : Dataset
deriving Repr, DecidableEq

abbrev Store := GStore File

def tagCodec : Codec File :=
  { enc := fun e d => ⟨e, d⟩, dec := fun e f => if f.engine = e then some f.ds else none }

/-- `save_ds(ds, name, engine)` -/
def save (s : Store) (name : String) (e : Engine) (d : Dataset) : Store := saveVia tagCodec s name e d
/-- `load_ds(name, engine)` -/
def load (s : Store) (name : String) (e : Engine) : Except IOErr Dataset := loadVia tagCodec s name e

end StoreIO
