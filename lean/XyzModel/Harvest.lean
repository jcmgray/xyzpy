import XyzModel.StoreIO
/-!
# The Harvester (xyzpy/gen/farming.py) and `save_merge_ds` (xyzpy/manage.py) as sessions over a store

* `Store` = path ↦ file (StoreIO); a `Session` is one `Harvester` object: `data_name`, `engine`, in-memory `_full_ds`;
* operations: `addDs` (= what `harvest_combos` / `harvest_cases` / `add_ds` do with the freshly run dataset `N`,
  overwrite policy ∈ {none, overwrite, keep}, `sync` flag), `saveMerge`, `expandDims`, `dropSel`, `flush`
  (`save_full_ds()`), `deleteDs`, `newSession`, and the lazy `full_ds` property (`fullDs`);
* path resolution is explicit (StoreIO: which path is written, probed, removed — extracted anchors);
* the overwrite dispatch is extracted (`Gen.addDsTrue/False/None`, `Gen.saveMergeTrue/False/None`).
The swept function is not run by the model: the new data `N` is an input.
-/
namespace Harvest
open DS StoreIO

/-- `overwrite=None / True / False` -/
inductive Policy where
  | none | overwrite | keep
deriving DecidableEq, Repr

inductive Err where
  | conflict       -- xarray.MergeError
  | io             -- FileNotFoundError / OSError while reading or removing a file
  | notWritable    -- the OSError raised by load_full_ds
  | noData         -- AttributeError: there is no full dataset (None)
  | key            -- KeyError (drop_sel of a label that is not there)
  | value          -- ValueError (expand_dims along an existing dimension)
  | badMerge       -- the dispatch is not one of the three known merges (extraction only)
  | badSession
deriving DecidableEq, Repr

structure Session where
  name : String
  engine : Engine
  mem : Option Dataset := none
deriving Repr, DecidableEq

structure St where
  store : Store := []
  sessions : List Session := []
deriving Repr

def mergeBy (k : Gen.MergeKind) (old new : Dataset) : Except Err Dataset :=
  match k with
  | .newFirst => .ok (new.combineFirst old)
  | .oldFirst => .ok (old.combineFirst new)
  | .noConflicts =>
    match old.mergeNoConflicts new with
    | .ok d => .ok d
    | .error _ => .error .conflict
  | .unknown => .error .badMerge

def addDsKind : Policy → Gen.MergeKind
  | .overwrite => Gen.addDsTrue
  | .keep => Gen.addDsFalse
  | .none => Gen.addDsNone

def saveMergeKind : Policy → Gen.MergeKind
  | .overwrite => Gen.saveMergeTrue
  | .keep => Gen.saveMergeFalse
  | .none => Gen.saveMergeNone

/-- `Harvester.load_full_ds` -/
def loadFull (store : Store) (s : Session) : Except Err Session :=
  if shas store (hvAccessPath s.name s.engine) then
    match load store s.name s.engine with
    | .ok d => .ok { s with mem := some d }
    | .error _ => .error .io
  else if !shas store (hvIsfilePath s.name s.engine) then .ok s
  else .error .notWritable

/-- `Harvester.save_full_ds(new_full_ds)` with a new dataset, as a specification: the old file goes and the new one is
written.  The source writes aside and `os.replace`s; that leaves the same finite map (`Harvest.hvSaveFull_refines`). -/
def saveFullNew (store : Store) (s : Session) (d : Dataset) : Except Err (Store × Session) :=
  let d' := coerceAttrs s.engine d
  if shas store (hvExistsPath s.name s.engine) then
    if shas store (hvRemovePath s.name s.engine) then
      .ok (save (serase store (hvRemovePath s.name s.engine)) s.name s.engine d', { s with mem := some d' })
    else .error .io
  else .ok (save store s.name s.engine d', { s with mem := some d' })

def setSession (st : St) (sid : Nat) (s : Session) : St := { st with sessions := st.sessions.set sid s }

/-- `if sync_with_disk: self.load_full_ds()` -/
def preload (store : Store) (s : Session) (sync : Bool) : Except Err Session :=
  if sync then loadFull store s else .ok s

/-- the merge of `add_ds`: with nothing in memory the new data is taken as it is -/
def mergeInto (mem : Option Dataset) (k : Gen.MergeKind) (N : Dataset) : Except Err Dataset :=
  match mem with
  | none => .ok N
  | some old => mergeBy k old N

/-- `Harvester.add_ds(N, sync, overwrite)` — also the tail of `harvest_combos` / `harvest_cases` -/
def addDs (st : St) (sid : Nat) (N : Dataset) (pol : Policy) (sync : Bool) : St × Option Err :=
  match st.sessions[sid]? with
  | none => (st, some .badSession)
  | some s =>
    match preload st.store s sync with
    | .error e => (st, some e)
    | .ok s1 =>
      match mergeInto s1.mem (addDsKind pol) N with
      | .error e => (setSession st sid s1, some e)
      | .ok d =>
        if sync then
          match saveFullNew st.store s1 d with
          | .ok (store', s2) => ({ store := store', sessions := st.sessions.set sid s2 }, none)
          | .error e => (setSession st sid s1, some e)
        else (setSession st sid { s1 with mem := some d }, none)

/-- the `full_ds` property: loads from disk when nothing is in memory yet -/
def fullDs (st : St) (sid : Nat) : St × Except Err (Option Dataset) :=
  match st.sessions[sid]? with
  | none => (st, .error .badSession)
  | some s =>
    match s.mem with
    | some d => (st, .ok (some d))
    | none =>
      match loadFull st.store s with
      | .ok s1 => (setSession st sid s1, .ok s1.mem)
      | .error e => (st, .error e)

/-- an operation that rewrites `full_ds` and saves it at once (`expand_dims`, `drop_sel`) -/
def rewrite (st : St) (sid : Nat) (f : Dataset → Option Dataset) (onNone : Err) : St × Option Err :=
  match fullDs st sid with
  | (st1, .error e) => (st1, some e)
  | (st1, .ok none) => (st1, some .noData)
  | (st1, .ok (some d)) =>
    match f d with
    | none => (st1, some onNone)
    | some d' =>
      match st1.sessions[sid]? with
      | none => (st1, some .badSession)
      | some s =>
        match saveFullNew st1.store s d' with
        | .ok (store', s2) => ({ store := store', sessions := st1.sessions.set sid s2 }, none)
        | .error e => (st1, some e)

def expandDims (st : St) (sid : Nat) (dim : String) (value : Coord) : St × Option Err :=
  rewrite st sid (fun d => d.expandDims dim value) .value

def dropSel (st : St) (sid : Nat) (dim : String) (values : List Coord) : St × Option Err :=
  rewrite st sid (fun d => d.dropSel dim values) .key

/-- `Harvester.save_full_ds()` without a new dataset: write the memory as it is -/
def flush (st : St) (sid : Nat) : St × Option Err :=
  match st.sessions[sid]? with
  | none => (st, some .badSession)
  | some s =>
    match s.mem with
    | none => (st, some .noData)
    | some d =>
      let d' := coerceAttrs s.engine d
      ({ store := save st.store s.name s.engine d', sessions := st.sessions.set sid { s with mem := some d' } }, none)

/-- `Harvester.delete_ds()` -/
def deleteDs (st : St) (sid : Nat) : St × Option Err :=
  match st.sessions[sid]? with
  | none => (st, some .badSession)
  | some s =>
    if shas st.store (hvDeletePath s.name s.engine) then
      ({ st with store := serase st.store (hvDeletePath s.name s.engine) }, none)
    else (st, some .io)

/-- `save_merge_ds`: the existing dataset, or the empty one when no file is seen -/
def smOld (store : Store) (name : String) (e : Engine) : Except Err Dataset :=
  if shas store (smExistsPath name e) then
    match load store name (smLoadEngine e) with
    | .ok d => .ok d
    | .error _ => .error .io
  else .ok {}

/-- `save_merge_ds(N, name, overwrite, engine=e)` -/
def saveMerge (store : Store) (name : String) (e : Engine) (N : Dataset) (pol : Policy) : Store × Option Err :=
  match smOld store name e with
  | .error er => (store, some er)
  | .ok o =>
    match mergeBy (saveMergeKind pol) o N with
    | .error er => (store, some er)
    | .ok d => (save store name e d, none)

def newSession (st : St) (name : String) (e : Engine) : St :=
  { st with sessions := st.sessions ++ [{ name := name, engine := e }] }

/-! ### histories -/

inductive Step where
  | newSession (name : String)
  | harvest (sid : Nat) (N : Dataset) (pol : Policy) (sync : Bool)
  | saveMerge (name : String) (N : Dataset) (pol : Policy)
  | expandDims (sid : Nat) (dim : String) (value : Coord)
  | dropSel (sid : Nat) (dim : String) (values : List Coord)
  | flush (sid : Nat)
  | delete (sid : Nat)
deriving Repr

def step (e : Engine) (st : St) : Step → St × Option Err
  | .newSession name => (newSession st name e, none)
  | .harvest sid N pol sync => addDs st sid N pol sync
  | .saveMerge name N pol =>
    let r := saveMerge st.store name e N pol
    ({ st with store := r.1 }, r.2)
  | .expandDims sid dim value => expandDims st sid dim value
  | .dropSel sid dim values => dropSel st sid dim values
  | .flush sid => flush st sid
  | .delete sid => deleteDs st sid

def run (e : Engine) (st : St) (h : List Step) : St := h.foldl (fun s x => (step e s x).1) st

end Harvest
