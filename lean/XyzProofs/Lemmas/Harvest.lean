import XyzProofs.Lemmas.StoreIO
/-!
What the Harvester's property theorems (`Props/C05`) and its refinement theorems (`Refine/Harvest`, `Refine/StoreIO`) both
rest on: the `overwrite` dispatch in the form both use (`owKind (polArg pol)`), what a reload keeps of a session, what
`save_full_ds(new)` leaves in the store, and the `List.set` facts about the list of sessions.
-/
namespace Harvest
open DS StoreIO

/-- which merge an `overwrite` value selects (`None` / `True` / `False`) -/
def owKind : Option Bool → Gen.MergeKind
  | none => .noConflicts
  | some true => .newFirst
  | some false => .oldFirst

def polArg : Policy → Option Bool
  | .none => none
  | .overwrite => some true
  | .keep => some false

/-- the dispatch extracted from `add_ds` and from `save_merge_ds` is the same, and the documented one -/
theorem addDsKind_eq (pol : Policy) : addDsKind pol = owKind (polArg pol) := by
  cases pol <;> rfl

theorem saveMergeKind_eq (pol : Policy) : saveMergeKind pol = owKind (polArg pol) := by
  cases pol <;> rfl

theorem loadFull_fields (store : Store) (s s1 : Session) (h : loadFull store s = .ok s1) :
    s1.name = s.name ∧ s1.engine = s.engine := by
  unfold loadFull at h
  -- every branch that answers `.ok` answers `s`, with another `mem` at most
  repeat' split at h
  all_goals cases h <;> exact ⟨rfl, rfl⟩

theorem preload_fields (store : Store) (s s1 : Session) (sync : Bool) (h : preload store s sync = .ok s1) :
    s1.name = s.name ∧ s1.engine = s.engine := by
  unfold preload at h
  split at h
  · exact loadFull_fields store s s1 h
  · injection h with h; subst h; exact ⟨rfl, rfl⟩

theorem saveFullNew_spec (store : Store) (s : Session) (d : Dataset) :
    ∃ store', saveFullNew store s d = .ok (store', { s with mem := some (coerceAttrs s.engine d) }) ∧
      load store' s.name s.engine = .ok (coerceAttrs s.engine d) ∧
      alookup store' (autoAddExt s.name s.engine) = some ⟨s.engine, coerceAttrs s.engine d⟩ ∧
      ∀ k, k ≠ autoAddExt s.name s.engine → alookup store' k = alookup store k := by
  simp only [saveFullNew, hvExistsPath_eq, hvRemovePath_eq]
  -- whether or not an old file is seen (and removed first): the same new file, the other paths as they were
  by_cases hx : shas store (autoAddExt s.name s.engine) = true <;> simp only [hx, if_true, Bool.false_eq_true, if_false] <;>
    exact ⟨_, rfl, by rw [load_save, coerceAttrs_idem], by simp [alookup_save, coerceAttrs_idem],
      fun k hk => by simp [alookup_save, alookup_serase, hk.symm]⟩

theorem set_get {α} (l : List α) (i : Nat) (x s : α) (h : l[i]? = some s) : (l.set i x)[i]? = some x :=
  List.getElem?_set_self (List.getElem?_eq_some_iff.mp h).1

theorem set_self {α} (l : List α) (i : Nat) (x : α) (h : l[i]? = some x) : l.set i x = l := by
  obtain ⟨hi, rfl⟩ := List.getElem?_eq_some_iff.mp h
  exact List.set_getElem_self hi

theorem setSession_self (st : St) (sid : Nat) (s : Session) (hs : st.sessions[sid]? = some s) : setSession st sid s = st := by
  simp [setSession, set_self _ _ _ hs]

end Harvest
