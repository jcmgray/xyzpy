import XyzModel.Gen.DefaultGrow
/-!
Every effect skeleton translated from the source (`Gen.reap*Sk`, `Gen.growSk`, `Gen.*Lc`) is, once its options are fixed,
`attempt fails L t` for an explicit list `L`.  What the property theorems need of such a run is proved here for an
arbitrary effect type and an arbitrary `fails`; `attempt_cases` is the fact the others come from.  The namespace `Lc` is
that of the life-cycle files, where `attempt` was first needed; the theory is shared by C04, C08, C12 and C16.
The equations of the continuation combinators stand beside their definitions (`skBind_ok/err/ite` in Gen/DefaultFn.lean,
`skBindG_ok/err` in Gen/DefaultGrow.lean); `skBindG_assoc`, `skBind_eq_skBindG` are here, `thenT_eq_skBindG` in
Refine/Lifecycle.lean.
-/
namespace Lc
open Gen

/-- attempt the effects in order on top of trace `t`; the first that fails is still recorded and ends the body -/
def attempt {E : Type} (fails : E → Bool) : List E → List E → List E × Option PyErr
  | [], t => (t, none)
  | e :: es, t => if fails e then (t ++ [e], some .other) else attempt fails es (t ++ [e])

section
variable {E : Type} (fails : E → Bool)

theorem attempt_append (p q t : List E) :
    attempt fails (p ++ q) t = skBindG (attempt fails p t) (attempt fails q) := by
  induction p generalizing t with
  | nil => rfl
  | cons e es ih =>
    simp only [List.cons_append, attempt]
    split
    · rfl
    · exact ih _

theorem attempt_cases (p t : List E) :
    ((∀ e ∈ p, fails e = false) ∧ attempt fails p t = (t ++ p, none)) ∨
    (∃ pre e suf, p = pre ++ e :: suf ∧ (∀ x ∈ pre, fails x = false) ∧ fails e = true ∧
      attempt fails p t = (t ++ pre ++ [e], some .other)) := by
  induction p generalizing t with
  | nil => exact Or.inl ⟨by simp, by simp [attempt]⟩
  | cons a as ih =>
    cases ha : fails a
    · rcases ih (t ++ [a]) with ⟨h1, h2⟩ | ⟨pre, e, suf, h1, h2, h3, h4⟩
      · exact Or.inl ⟨by simpa [ha] using h1, by simp [attempt, ha, h2]⟩
      · exact Or.inr ⟨a :: pre, e, suf, by simp [h1], by simpa [ha] using h2, h3, by simp [attempt, ha, h4]⟩
    · exact Or.inr ⟨[], a, as, rfl, by simp, ha, by simp [attempt, ha]⟩

theorem attempt_ok_iff (p t : List E) : (attempt fails p t).2 = none ↔ ∀ e ∈ p, fails e = false := by
  rcases attempt_cases fails p t with ⟨h1, h2⟩ | ⟨pre, e, suf, rfl, _, h3, h4⟩
  · simp only [h2, true_iff]; exact h1
  · simp only [h4, reduceCtorEq, false_iff]
    exact fun h => by simp [h e (by simp)] at h3

theorem attempt_ok (p t : List E) (h : ∀ e ∈ p, fails e = false) : attempt fails p t = (t ++ p, none) := by
  rcases attempt_cases fails p t with ⟨_, h2⟩ | ⟨pre, e, suf, rfl, _, h3, _⟩
  · exact h2
  · simp [h e (by simp)] at h3

theorem attempt_ok_trace (p t : List E) (h : (attempt fails p t).2 = none) : (attempt fails p t).1 = t ++ p := by
  rw [attempt_ok fails p t ((attempt_ok_iff fails p t).mp h)]

theorem attempt_mem (p t : List E) (x : E) (h : x ∈ (attempt fails p t).1) : x ∈ t ∨ x ∈ p := by
  rcases attempt_cases fails p t with ⟨_, h2⟩ | ⟨pre, e, suf, rfl, _, _, h4⟩
  · simpa [h2] using h
  · rw [h4, List.append_assoc] at h
    rw [List.append_cons]
    exact (List.mem_append.mp h).imp_right (List.mem_append_left suf)

theorem attempt_stops (a b t : List E) (x : E) (hx : fails x = true) :
    attempt fails (a ++ x :: b) t = attempt fails (a ++ [x]) t := by
  rw [attempt_append, attempt_append]
  congr 1
  funext t'
  simp only [attempt, hx, if_true]

theorem attempt_last (p t : List E) (w : E) (hp : w ∉ p) (ht : w ∉ t) :
    (w ∈ (attempt fails (p ++ [w]) t).1 ↔ ∀ e ∈ p, fails e = false) ∧
    (w ∈ (attempt fails (p ++ [w]) t).1 → (attempt fails (p ++ [w]) t).1 = t ++ p ++ [w]) ∧
    ((attempt fails (p ++ [w]) t).2 = none ↔ (∀ e ∈ p, fails e = false) ∧ fails w = false) ∧
    ((attempt fails (p ++ [w]) t).2 ≠ none → w ∈ (attempt fails (p ++ [w]) t).1 → fails w = true) := by
  rw [attempt_append]
  rcases attempt_cases fails p t with ⟨h1, h2⟩ | ⟨pre, e, suf, rfl, _, h3, h4⟩
  · rw [h2, skBindG_ok]
    cases hw : fails w <;> simp [attempt, hw] <;> exact h1
  · -- the run stopped at `e ≠ w` inside `p`: `w` is not in the trace
    have hnw : w ∉ t ++ pre ++ [e] := fun hm =>
      (attempt_mem fails _ t w (by rw [h4]; exact hm)).elim ht hp
    have hne : ¬ ∀ x ∈ pre ++ e :: suf, fails x = false := fun hc => by simp [hc e (by simp)] at h3
    rw [h4, skBindG_err]
    exact ⟨⟨fun hc => absurd hc hnw, fun hc => absurd hc hne⟩, fun hc => absurd hc hnw,
      ⟨fun hc => by simp at hc, fun hc => absurd hc.1 hne⟩, fun _ hc => absurd hc hnw⟩

section
variable {fails} {p t : List E} {w : E} (hp : w ∉ p) (ht : w ∉ t)
include hp ht

theorem attempt_last_mem_iff : w ∈ (attempt fails (p ++ [w]) t).1 ↔ ∀ e ∈ p, fails e = false :=
  (attempt_last fails p t w hp ht).1

theorem attempt_last_trace (h : w ∈ (attempt fails (p ++ [w]) t).1) : (attempt fails (p ++ [w]) t).1 = t ++ p ++ [w] :=
  (attempt_last fails p t w hp ht).2.1 h

theorem attempt_last_ok_iff :
    (attempt fails (p ++ [w]) t).2 = none ↔ (∀ e ∈ p, fails e = false) ∧ fails w = false :=
  (attempt_last fails p t w hp ht).2.2.1

theorem attempt_last_raised (herr : (attempt fails (p ++ [w]) t).2 ≠ none) (h : w ∈ (attempt fails (p ++ [w]) t).1) :
    fails w = true :=
  (attempt_last fails p t w hp ht).2.2.2 herr h

end

/-! For rewriting under a `skBindG`, where `attempt fails L` stands without its trace. -/

theorem attempt_append_fun (p q : List E) :
    attempt fails (p ++ q) = fun t => skBindG (attempt fails p t) (attempt fails q) := by
  funext t; exact attempt_append fails p q t

theorem skBindG_assoc (r : List E × Option PyErr) (f g : List E → List E × Option PyErr) :
    skBindG (skBindG r f) g = skBindG r fun t => skBindG (f t) g := by
  rcases r with ⟨t, _ | e⟩ <;> rfl

/-- `attempt`, then `k` on the trace reached, in a form that computes: on an explicit list this unfolds by itself to the
chain of `if fails e` with `k` at the end, whereas `skBindG (attempt fails p t) k` is stuck at the first `if`.  `err`
makes the result of a run that an effect ended. -/
def attemptThen {R : Type} (err k : List E → R) : List E → List E → R
  | [], t => k t
  | e :: es, t => if fails e then err (t ++ [e]) else attemptThen err k es (t ++ [e])

/-- any function `B` of the outcome that goes on with `k` after a run that went through and gives `err` after one that an
effect ended is `attemptThen`: `skBindG`, `thenT`, `thenK` are such functions -/
theorem attemptThen_eq {R : Type} (B : List E × Option PyErr → R) (err k : List E → R)
    (hok : ∀ t, B (t, none) = k t) (herr : ∀ t, B (t, some .other) = err t) (p t : List E) :
    B (attempt fails p t) = attemptThen fails err k p t := by
  induction p generalizing t with
  | nil => exact hok t
  | cons e es ih =>
    simp only [attempt, attemptThen]
    split
    · exact herr _
    · exact ih _

theorem skBindG_attempt (p t : List E) (k : List E → List E × Option PyErr) :
    skBindG (attempt fails p t) k = attemptThen fails (fun t => (t, some .other)) k p t :=
  attemptThen_eq fails (skBindG · k) _ k (fun _ => rfl) (fun _ => rfl) p t

theorem attemptThen_cases {R : Type} (err k : List E → R) (p t : List E) :
    ((∀ e ∈ p, fails e = false) ∧ attemptThen fails err k p t = k (t ++ p)) ∨
    ((∃ x ∈ p, fails x = true) ∧ attemptThen fails err k p t = err (attempt fails p t).1) := by
  induction p generalizing t with
  | nil => exact .inl ⟨by simp, by simp [attemptThen]⟩
  | cons a as ih =>
    cases ha : fails a
    · rcases ih (t ++ [a]) with ⟨h1, h2⟩ | ⟨⟨x, hx, hf⟩, h2⟩
      · exact .inl ⟨by simpa [ha] using h1, by simp [attemptThen, ha, h2]⟩
      · exact .inr ⟨⟨x, by simp [hx], hf⟩, by simp [attemptThen, attempt, ha, h2]⟩
    · exact .inr ⟨⟨a, by simp, ha⟩, by simp [attemptThen, attempt, ha]⟩

theorem skBind_eq_skBindG : skBind = skBindG (ε := Eff) := by
  funext r k; rcases r with ⟨t, _ | e⟩ <;> rfl

end

theorem attempt_err {E : Type} (fails : E → Bool) (es t : List E) (e : PyErr) (h : (attempt fails es t).2 = some e) :
    e = .other := by
  rcases attempt_cases fails es t with ⟨_, h2⟩ | ⟨_, _, _, _, _, _, h4⟩
  · simp [h2] at h
  · simpa [h4] using h.symm

end Lc
