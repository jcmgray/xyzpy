import XyzModel.Stats
import Mathlib.Tactic.FieldSimp
import Mathlib.Tactic.Ring
import Mathlib.Tactic.Linarith
import Mathlib.Tactic.Positivity
import Mathlib.Data.List.Induction
/-!
Helper lemmas for C19: the algebra of one covariance step and the invariant it keeps (`InvC`); `RunningStatistics` as
the diagonal of `RunningCovariance`; the covariance matrix entry by entry; the `estimate_from_repeats` loop returns the
statistics at the first index where the stopping rule holds.
-/
namespace Stats
open List

attribute [ext] RS
attribute [ext] RC

def sumSq (l : List ℚ) : ℚ := (l.map fun x => x * x).sum
def sumX (l : List (ℚ × ℚ)) : ℚ := (l.map fun p => p.1).sum
def sumY (l : List (ℚ × ℚ)) : ℚ := (l.map fun p => p.2).sum
def sumXY (l : List (ℚ × ℚ)) : ℚ := (l.map fun p => p.1 * p.2).sum

@[simp] theorem sumSq_nil : sumSq [] = 0 := rfl
@[simp] theorem sumX_nil : sumX [] = 0 := rfl
@[simp] theorem sumY_nil : sumY [] = 0 := rfl
@[simp] theorem sumXY_nil : sumXY [] = 0 := rfl
theorem sumX_snoc (l : List (ℚ × ℚ)) (p : ℚ × ℚ) : sumX (l ++ [p]) = sumX l + p.1 := by simp [sumX]
theorem sumY_snoc (l : List (ℚ × ℚ)) (p : ℚ × ℚ) : sumY (l ++ [p]) = sumY l + p.2 := by simp [sumY]
theorem sumXY_snoc (l : List (ℚ × ℚ)) (p : ℚ × ℚ) : sumXY (l ++ [p]) = sumXY l + p.1 * p.2 := by simp [sumXY]

/-! ### the extracted update bodies and reported quantities
Stated once, in the source's spelling; everything below reads `update`, `var`, `covar` through these. -/

theorem RS.update_eq (s : RS) (x : ℚ) : s.update x =
    ⟨s.count + 1, s.mean + (x - s.mean) / ((s.count : ℚ) + 1),
      s.M2 + (x - s.mean) * (x - (s.mean + (x - s.mean) / ((s.count : ℚ) + 1)))⟩ := by
  simp only [RS.update, Gen.welfordCount, Gen.Default.welfordCount, Gen.welfordMean, Gen.Default.welfordMean,
    Gen.welfordM2, Gen.Default.welfordM2]

theorem RC.update_eq (s : RC) (p : ℚ × ℚ) : s.update p =
    ⟨s.count + 1, s.xmean + (p.1 - s.xmean) / ((s.count : ℚ) + 1), s.ymean + (p.2 - s.ymean) / ((s.count : ℚ) + 1),
      s.C + (p.1 - s.xmean) * (p.2 - (s.ymean + (p.2 - s.ymean) / ((s.count : ℚ) + 1)))⟩ := by
  simp only [RC.update, Gen.covCount, Gen.Default.covCount, Gen.covXmean, Gen.Default.covXmean,
    Gen.covYmean, Gen.Default.covYmean, Gen.covC, Gen.Default.covC]

theorem RS.var_eq (s : RS) : s.var = s.M2 / (s.count : ℚ) := by
  simp only [RS.var, Gen.statVar, Gen.Default.statVar]

theorem RC.covar_eq (s : RC) : s.covar = s.C / (s.count : ℚ) := by
  simp only [RC.covar, Gen.covCovar, Gen.Default.covCovar]

theorem RC.sampleCovar_eq (s : RC) : s.sampleCovar = s.C / ((s.count : ℚ) - 1) := by
  simp only [RC.sampleCovar, Gen.covSample, Gen.Default.covSample]

theorem step_mean (n mean S x : ℚ) (hn : n + 1 ≠ 0) (hm : mean * n = S) :
    (mean + (x - mean) / (n + 1)) * (n + 1) = S + x := by
  field_simp
  linarith

theorem step_C (n xm ym C Sx Sy P x y : ℚ) (hn : n + 1 ≠ 0) (hx : xm * n = Sx) (hy : ym * n = Sy)
    (hC : C * n = n * P - Sx * Sy) (h0 : n = 0 → C = 0 ∧ P = 0) :
    (C + (x - xm) * (y - (ym + (y - ym) / (n + 1)))) * (n + 1)
      = (n + 1) * (P + x * y) - (Sx + x) * (Sy + y) := by
  by_cases hz : n = 0
  · obtain ⟨h1, h2⟩ := h0 hz
    subst hz hx hy h1 h2
    ring
  · have hSx : Sx = xm * n := hx.symm
    have hSy : Sy = ym * n := hy.symm
    have hP : P = C + Sx * Sy / n := by field_simp; linarith
    rw [hP, hSx, hSy]
    field_simp
    ring

theorem div_count {C n P Sx Sy : ℚ} (hn : n ≠ 0) (h : C * n = n * P - Sx * Sy) :
    C / n = P / n - Sx / n * (Sy / n) := by
  field_simp
  linarith

theorem cast_length_ne_zero {α : Type} {l : List α} (hl : l ≠ []) : (l.length : ℚ) ≠ 0 := by
  exact_mod_cast fun h => hl (List.length_eq_zero_iff.mp h)

theorem runCov_nil : runCov [] = RC.init := rfl
theorem runCov_snoc (l : List (ℚ × ℚ)) (p : ℚ × ℚ) : runCov (l ++ [p]) = (runCov l).update p := by
  simp [runCov, RC.updateFromIt, List.foldl_append]

structure InvC (s : RC) (l : List (ℚ × ℚ)) : Prop where
  count : s.count = (l.length : ℤ)
  xmean : s.xmean * (l.length : ℚ) = sumX l
  ymean : s.ymean * (l.length : ℚ) = sumY l
  c : s.C * (l.length : ℚ) = (l.length : ℚ) * sumXY l - sumX l * sumY l
  -- for `l = []` the three products above say nothing about `s`
  zero : l = [] → s = RC.init

theorem invC_step {s : RC} {l : List (ℚ × ℚ)} (h : InvC s l) (p : ℚ × ℚ) : InvC (s.update p) (l ++ [p]) := by
  have hc : ((s.count : ℤ) : ℚ) = (l.length : ℚ) := by rw [h.count]; simp
  have hn : (l.length : ℚ) + 1 ≠ 0 := Nat.cast_add_one_ne_zero l.length
  have hlen : ((l ++ [p]).length : ℚ) = (l.length : ℚ) + 1 := by simp
  rw [RC.update_eq, hc]
  refine ⟨?_, ?_, ?_, ?_, ?_⟩
  · simp [h.count]
  · rw [hlen, sumX_snoc]
    exact step_mean _ _ _ _ hn h.xmean
  · rw [hlen, sumY_snoc]
    exact step_mean _ _ _ _ hn h.ymean
  · rw [hlen, sumX_snoc, sumY_snoc, sumXY_snoc]
    refine step_C _ _ _ _ _ _ _ _ _ hn h.xmean h.ymean h.c ?_
    intro hz
    have : l = [] := List.length_eq_zero_iff.mp (by exact_mod_cast hz)
    exact ⟨by rw [h.zero this]; rfl, by subst this; rfl⟩
  · intro hl; simp at hl

theorem invC_run (l : List (ℚ × ℚ)) : InvC (runCov l) l := by
  induction l using List.reverseRecOn with
  | nil => exact ⟨rfl, by simp [runCov_nil, RC.init], by simp [runCov_nil, RC.init],
      by simp [runCov_nil, RC.init], fun _ => rfl⟩
  | append_singleton l p ih => rw [runCov_snoc]; exact invC_step ih p

theorem InvC.unique {s₁ s₂ : RC} {l₁ l₂ : List (ℚ × ℚ)} (h₁ : InvC s₁ l₁) (h₂ : InvC s₂ l₂) (hlen : l₁.length = l₂.length)
    (hx : sumX l₁ = sumX l₂) (hy : sumY l₁ = sumY l₂) (hxy : sumXY l₁ = sumXY l₂) : s₁ = s₂ := by
  rcases eq_or_ne l₁ [] with hz | hz
  · rw [h₁.zero hz, h₂.zero (List.length_eq_zero_iff.mp (by rw [← hlen, hz]; rfl))]
  · have hn := cast_length_ne_zero hz
    obtain ⟨c₁, x₁, y₁, C₁, _⟩ := h₁
    obtain ⟨c₂, x₂, y₂, C₂, _⟩ := h₂
    rw [← hlen, ← hx] at x₂
    rw [← hlen, ← hy] at y₂
    rw [← hlen, ← hx, ← hy, ← hxy] at C₂
    exact RC.ext (c₁.trans ((congrArg Nat.cast hlen).trans c₂.symm)) (mul_right_cancel₀ hn (x₁.trans x₂.symm))
      (mul_right_cancel₀ hn (y₁.trans y₂.symm)) (mul_right_cancel₀ hn (C₁.trans C₂.symm))

theorem count_runCov_cast (l : List (ℚ × ℚ)) : (((runCov l).count : ℤ) : ℚ) = (l.length : ℚ) := by
  rw [(invC_run l).count, Int.cast_natCast]

/-! ### RunningStatistics: the diagonal of RunningCovariance

`RunningStatistics` fed `x` does to `(count, mean, M2)` what `RunningCovariance` fed `(x, x)` does to
`(count, xmean, C)` (and to `ymean`), so its invariant is the covariance one on the diagonal. -/

theorem run_nil : run [] = RS.init := rfl
theorem run_snoc (l : List ℚ) (x : ℚ) : run (l ++ [x]) = (run l).update x := by
  simp [run, RS.updateFromIt, List.foldl_append]

theorem update_diag (s : RS) (x : ℚ) :
    RC.update ⟨s.count, s.mean, s.mean, s.M2⟩ (x, x)
      = ⟨(s.update x).count, (s.update x).mean, (s.update x).mean, (s.update x).M2⟩ := by
  rw [RC.update_eq, RS.update_eq]

theorem runCov_diag (l : List ℚ) :
    runCov (l.map fun x => (x, x)) = ⟨(run l).count, (run l).mean, (run l).mean, (run l).M2⟩ := by
  induction l using List.reverseRecOn with
  | nil => rfl
  | append_singleton l x ih => rw [List.map_append, List.map_singleton, runCov_snoc, ih, update_diag, run_snoc]

theorem count_run (l : List ℚ) : (run l).count = (l.length : ℤ) := by
  simpa [runCov_diag] using (invC_run (l.map fun x => (x, x))).count

theorem count_run_cast (l : List ℚ) : (((run l).count : ℤ) : ℚ) = (l.length : ℚ) := by
  rw [count_run, Int.cast_natCast]

theorem mean_run (l : List ℚ) : (run l).mean * (l.length : ℚ) = l.sum := by
  simpa [runCov_diag, sumX, List.map_map, Function.comp_def] using (invC_run (l.map fun x => (x, x))).xmean

theorem M2_run (l : List ℚ) : (run l).M2 * (l.length : ℚ) = (l.length : ℚ) * sumSq l - l.sum * l.sum := by
  simpa [runCov_diag, sumX, sumY, sumXY, sumSq, List.map_map, Function.comp_def] using
    (invC_run (l.map fun x => (x, x))).c

theorem M2_step_nonneg (n mean M2 x : ℚ) (hn : 0 ≤ n) (hM : 0 ≤ M2) :
    0 ≤ M2 + (x - mean) * (x - (mean + (x - mean) / (n + 1))) := by
  have e : (x - mean) * (x - (mean + (x - mean) / (n + 1))) = (x - mean) ^ 2 * (n / (n + 1)) := by
    field_simp; ring
  rw [e]
  positivity

theorem M2_nonneg (l : List ℚ) : 0 ≤ (run l).M2 := by
  induction l using List.reverseRecOn with
  | nil => simp [run_nil, RS.init]
  | append_singleton l x ih =>
    rw [run_snoc, RS.update_eq]
    apply M2_step_nonneg _ _ _ _ _ ih
    rw [count_run l]
    positivity

theorem var_nonneg {s : RS} (hc : 0 < s.count) (hM : 0 ≤ s.M2) : 0 ≤ s.var := by
  rw [RS.var_eq]
  positivity

/-- a matrix state in "tabulated" form: the stored pairs `l`, each with state `g p` -/
def tab (l : List (ℕ × ℕ)) (g : ℕ × ℕ → RC) : Mat := l.map fun p => (p, g p)

theorem init_tab (n : ℕ) : Mat.init n = tab (pairs n) fun _ => RC.init := rfl

theorem update_tab (l : List (ℕ × ℕ)) (g : ℕ × ℕ → RC) (x : List ℚ) :
    Mat.update (tab l g) x = tab l fun p => (g p).update (proj p x) := by
  simp [Mat.update, tab, List.map_map, Function.comp_def]

theorem rows_tab (l : List (ℕ × ℕ)) (g : ℕ × ℕ → RC) (rs : List (List ℚ)) :
    rs.foldl Mat.update (tab l g) = tab l fun p => (g p).updateFromIt (rs.map (proj p)) := by
  induction rs generalizing g with
  | nil => simp [RC.updateFromIt]
  | cons r rs ih =>
    simp only [List.foldl_cons, update_tab, ih]
    simp [RC.updateFromIt]

theorem cols_tab (l : List (ℕ × ℕ)) (g : ℕ × ℕ → RC) (cs : List (List ℚ)) :
    Mat.updateFromIt (tab l g) cs =
      tab l fun p => (g p).updateFromIt ((cs.getD p.1 []).zip (cs.getD p.2 [])) := by
  simp [Mat.updateFromIt, tab, List.map_map, Function.comp_def]

theorem apply_tab (l : List (ℕ × ℕ)) (g : ℕ × ℕ → RC) (st : Step) :
    Mat.apply (tab l g) st = tab l fun p => (g p).updateFromIt (stepPairs p st) := by
  cases st with
  | rows rs => simp only [Mat.apply, rows_tab, stepPairs]
  | cols cs => simp only [Mat.apply, cols_tab, stepPairs]

theorem steps_tab (l : List (ℕ × ℕ)) (g : ℕ × ℕ → RC) (steps : List Step) :
    steps.foldl Mat.apply (tab l g) = tab l fun p => (g p).updateFromIt (steps.flatMap (stepPairs p)) := by
  induction steps generalizing g with
  | nil => simp [RC.updateFromIt]
  | cons st sts ih =>
    simp only [List.foldl_cons, apply_tab, ih, List.flatMap_cons]
    simp [RC.updateFromIt, List.foldl_append]

theorem mem_pairs (n : ℕ) (p : ℕ × ℕ) : p ∈ pairs n ↔ p.1 ≤ p.2 ∧ p.2 < n := by
  simp only [pairs, List.mem_flatMap, List.mem_range, List.mem_map, List.mem_filter, decide_eq_true_eq]
  constructor
  · rintro ⟨i, _, j, ⟨hj, hij⟩, rfl⟩
    exact ⟨hij, hj⟩
  · intro h
    exact ⟨p.1, by omega, p.2, ⟨h.2, h.1⟩, rfl⟩

theorem key_eq (i j : ℕ) : key i j = (min i j, max i j) := by
  unfold key
  split
  · rename_i h
    rw [Nat.min_eq_left h, Nat.max_eq_right h]
  · rename_i h
    rw [Nat.min_eq_right (Nat.le_of_not_ge h), Nat.max_eq_left (Nat.le_of_not_ge h)]

theorem key_mem (n i j : ℕ) (hi : i < n) (hj : j < n) : key i j ∈ pairs n := by
  rw [key_eq, mem_pairs]
  omega

theorem key_symm (i j : ℕ) : key i j = key j i := by
  rw [key_eq, key_eq, Nat.min_comm, Nat.max_comm]

/-- the first `n` samples of the stream -/
def pre (f : ℕ → ℚ) (n : ℕ) : List ℚ := (List.range n).map f

theorem pre_succ (f : ℕ → ℚ) (n : ℕ) : pre f (n + 1) = pre f n ++ [f n] := by
  simp [pre, List.range_succ]

theorem run_pre_succ (f : ℕ → ℚ) (n : ℕ) : run (pre f (n + 1)) = (run (pre f n)).update (f n) := by
  rw [pre_succ, run_snoc]

theorem count_run_pre (f : ℕ → ℚ) (n : ℕ) : (run (pre f n)).count = (n : ℤ) := by
  rw [count_run]; simp [pre]

/-- does the loop break right after iteration `i` (statistics = those of the first `i + 1` samples)? -/
def stops (f : ℕ → ℚ) (P : Params) (i : ℕ) : Bool := stopNow P i (run (pre f (i + 1)))

/-- the source's two integer tests `i > min_samples`, `i >= max_samples - 1` -/
theorem repCheck_iff (i m : ℤ) : Gen.repCheck i m = true ↔ m < i := by
  simp only [Gen.repCheck, Gen.Default.repCheck, decide_eq_true_eq, gt_iff_lt]
  -- for a source that spells the test differently (`i >= min_samples + 1`): arithmetic
  try omega

theorem repHitMax_iff (i m : ℤ) : Gen.repHitMax i m = true ↔ m - 1 ≤ i := by
  simp only [Gen.repHitMax, Gen.Default.repHitMax, decide_eq_true_eq, ge_iff_le]
  -- for a source that spells the test differently (`i + 1 >= max_samples`): arithmetic
  try omega

theorem stops_iff (f : ℕ → ℚ) (P : Params) (j : ℕ) : stops f P j = true ↔
    ((P.minSamples < (j : ℤ) ∧ (run (pre f (j + 1))).converged P.rtol (P.tolScale * P.rtol) = true)
        ∨ P.maxSamples - 1 ≤ (j : ℤ)) := by
  rw [stops, stopNow, Bool.or_eq_true, Bool.and_eq_true, repCheck_iff, repHitMax_iff]
  simp only [Gen.repRtol, Gen.Default.repRtol, Gen.repAtol, Gen.Default.repAtol]

theorem stops_last (f : ℕ → ℚ) (P : Params) (hmax : 1 ≤ P.maxSamples) : stops f P (P.maxSamples.toNat - 1) = true :=
  (stops_iff f P _).mpr (Or.inr (by omega))

theorem exists_stop (f : ℕ → ℚ) (P : Params) (hmax : 1 ≤ P.maxSamples) : ∃ j, stops f P j = true :=
  ⟨_, stops_last f P hmax⟩

theorem loop_eq_first_stop (f : ℕ → ℚ) (P : Params) {k : ℕ} (hk : stops f P k = true) :
    ∀ (fuel i : ℕ), i ≤ k → k < i + fuel → (∀ j, i ≤ j → j < k → stops f P j = false) →
      loop f P fuel i (run (pre f i)) = run (pre f (k + 1)) := by
  intro fuel
  induction fuel with
  | zero => intro i _ _ _; omega
  | succ fuel ih =>
    intro i hik hkf hbefore
    unfold loop
    simp only [← run_pre_succ]
    rcases eq_or_lt_of_le hik with rfl | hlt
    · exact if_pos hk
    · have hs : stopNow P i (run (pre f (i + 1))) = false := hbefore i le_rfl hlt
      rw [hs]
      exact ih (i + 1) hlt (by omega) fun j hj => hbefore j (by omega)

/-- for `max_samples ≥ 1` the rule allows stopping at `max_samples − 1` at the latest, so with that much fuel or more the
loop returns the statistics at the first index where it does -/
theorem loop_eq_find (f : ℕ → ℚ) (P : Params) (hmax : 1 ≤ P.maxSamples) {fuel : ℕ} (hf : P.maxSamples.toNat ≤ fuel) :
    loop f P fuel 0 RS.init = run (pre f (Nat.find (exists_stop f P hmax) + 1)) := by
  have hle := Nat.find_min' (exists_stop f P hmax) (stops_last f P hmax)
  exact loop_eq_first_stop f P (Nat.find_spec (exists_stop f P hmax)) fuel 0 (Nat.zero_le _) (by omega)
    fun j _ hj => by simpa using Nat.find_min (exists_stop f P hmax) hj

/-- the fuel is not an artefact: any number of iterations from `max 1 max_samples` on gives the same result -/
theorem loop_fuel (f : ℕ → ℚ) (P : Params) (hmax : 1 ≤ P.maxSamples) (fuel : ℕ) (hf : P.maxSamples.toNat ≤ fuel) :
    loop f P fuel 0 RS.init = estimate f P :=
  (loop_eq_find f P hmax hf).trans (loop_eq_find f P hmax (by omega)).symm

section
variable {K : Type} [Field K] [LinearOrder K]

/-- what is assumed of `** 0.5` -/
def IsSqrt (sqrt : K → K) : Prop := ∀ a : K, 0 ≤ a → 0 ≤ sqrt a ∧ sqrt a * sqrt a = a

end

end Stats
