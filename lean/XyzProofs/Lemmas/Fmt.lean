import XyzModel.Fmt
import Mathlib.Tactic.Linarith
import Mathlib.Tactic.Positivity
import Mathlib.Tactic.Ring
import Mathlib.Algebra.Order.Field.Power
/-!
Helper lemmas for C20: `pow10` is `10 ^ e`, the rounding function is within ½, what a self-checked `sci` result
means (`IsSci`), the size bounds that follow from it, the three formulas extracted from the source as equations, and how
`format` decomposes.
-/
namespace Fmt

theorem natPow_cast (d : ℕ) : (((10 ^ d : ℕ) : ℚ)) = (10 : ℚ) ^ d := by push_cast; rfl

theorem pow10_eq (e : ℤ) : pow10 e = (10 : ℚ) ^ e := by
  unfold pow10
  split
  · rename_i h
    rw [natPow_cast, ← zpow_natCast, Int.toNat_of_nonneg h]
  · rename_i h
    rw [natPow_cast, ← zpow_natCast, Int.toNat_of_nonneg (by omega), zpow_neg, one_div, inv_inv]

theorem pow10_pos (e : ℤ) : 0 < pow10 e := by rw [pow10_eq]; positivity

theorem round_cases (q : ℚ) : (roundHalfEven q = q.floor ∧ q - q.floor ≤ 1 / 2) ∨
    (roundHalfEven q = q.floor + 1 ∧ 1 / 2 ≤ q - q.floor) := by
  unfold roundHalfEven
  simp only
  split_ifs with a b c
  · exact Or.inl ⟨rfl, a.le⟩
  · exact Or.inr ⟨rfl, b.le⟩
  · exact Or.inl ⟨rfl, not_lt.mp b⟩
  · exact Or.inr ⟨rfl, not_lt.mp a⟩

/-- rounding to an integer (what `f"{x:.0f}"` does): within one half -/
theorem c20_round_spec (q : ℚ) : |q - (roundHalfEven q : ℚ)| ≤ 1 / 2 := by
  rcases round_cases q with ⟨hr, h⟩ | ⟨hr, h⟩ <;> rw [hr]
  · rwa [abs_of_nonneg (sub_nonneg.mpr (Rat.floor_le q))]
  · rw [abs_sub_comm, abs_of_nonneg (sub_nonneg.mpr (Rat.lt_floor_add_one q).le)]
    push_cast
    linarith

theorem round_nonneg {q : ℚ} (hq : 0 ≤ q) : 0 ≤ roundHalfEven q := by
  have hf : 0 ≤ q.floor := Rat.le_floor_iff.mpr (by simpa using hq)
  rcases round_cases q with ⟨hr, _⟩ | ⟨hr, _⟩ <;> omega

theorem round_bounds {x : ℚ} {lo hi : ℤ} (hlo : (lo : ℚ) ≤ x) (hhi : x < (hi : ℚ)) :
    lo ≤ roundHalfEven x ∧ roundHalfEven x ≤ hi := by
  have h1 : lo ≤ x.floor := Rat.le_floor_iff.mpr hlo
  have h2 : x.floor < hi := Rat.floor_lt_iff.mpr hhi
  rcases round_cases x with ⟨hr, _⟩ | ⟨hr, _⟩ <;> omega

theorem abs_sub_mul_le {a b c u : ℚ} (hu : 0 < u) (h : |a - b| ≤ c) : |a * u - b * u| ≤ c * u := by
  rw [← sub_mul, abs_mul, abs_of_pos hu]
  exact mul_le_mul_of_nonneg_right h hu.le

theorem abs_sub_round_mul (q : ℚ) {u : ℚ} (hu : 0 < u) : |q - roundHalfEven (q / u) * u| ≤ 1 / 2 * u := by
  have h := abs_sub_mul_le hu (c20_round_spec (q / u))
  rwa [div_mul_cancel₀ _ hu.ne'] at h

/-- `(m, e)` is `q` correctly rounded to `p + 1` significant digits -/
structure IsSci (q : ℚ) (p : ℕ) (m e : ℤ) : Prop where
  lo : (10 : ℚ) ^ p ≤ m
  hi : (m : ℚ) < (10 : ℚ) ^ (p + 1)
  err : |q - m * (10 : ℚ) ^ (e - p)| ≤ (1 / 2) * (10 : ℚ) ^ (e - p)

theorem sciOk_iff (q : ℚ) (p : ℕ) (m e : ℤ) : sciOk q p (m, e) = true ↔ IsSci q p m e := by
  simp only [sciOk, Bool.and_eq_true, decide_eq_true_eq, pow10_eq, and_assoc]
  constructor
  · rintro ⟨h1, h2, h3, h4⟩
    exact ⟨by exact_mod_cast h1, by exact_mod_cast h2, abs_sub_le_iff.mpr ⟨h3, h4⟩⟩
  · rintro ⟨h1, h2, h3⟩
    exact ⟨by exact_mod_cast h1, by exact_mod_cast h2, (abs_sub_le_iff.mp h3).1, (abs_sub_le_iff.mp h3).2⟩

theorem sci_isSci {q : ℚ} {p : ℕ} {m e : ℤ} (h : sci q p = some (m, e)) : IsSci q p m e := by
  unfold sci at h
  simp only at h
  split at h
  · rename_i hok
    rw [show sciRaw q p = (m, e) by simpa using h] at hok
    exact (sciOk_iff q p m e).mp hok
  · simp at h

theorem ten_zpow_split (a b : ℤ) : (10 : ℚ) ^ (a + b) = (10 : ℚ) ^ a * (10 : ℚ) ^ b :=
  zpow_add₀ (by norm_num) a b

theorem lt_of_isSci {q : ℚ} {p : ℕ} {m e : ℤ} (h : IsSci q p m e) : q < (10 : ℚ) ^ (e + 1) := by
  have hpos : (0 : ℚ) < (10 : ℚ) ^ (e - p) := by positivity
  have hm : (m : ℚ) + 1 ≤ (10 : ℚ) ^ (p + 1) := by
    have : m < 10 ^ (p + 1) := by exact_mod_cast h.hi
    exact_mod_cast Int.add_one_le_of_lt this
  calc q ≤ m * (10 : ℚ) ^ (e - p) + 1 / 2 * (10 : ℚ) ^ (e - p) := sub_le_iff_le_add'.mp (abs_sub_le_iff.mp h.err).1
    _ < m * (10 : ℚ) ^ (e - p) + (10 : ℚ) ^ (e - p) := add_lt_add_right (mul_lt_of_lt_one_left hpos (by norm_num)) _
    _ = (m + 1) * (10 : ℚ) ^ (e - p) := (add_one_mul ..).symm
    _ ≤ (10 : ℚ) ^ (p + 1) * (10 : ℚ) ^ (e - p) := mul_le_mul_of_nonneg_right hm hpos.le
    _ = (10 : ℚ) ^ (e + 1) := by
      rw [← zpow_natCast, ← ten_zpow_split]
      congr 1; push_cast; ring

theorem ge_of_isSci {q : ℚ} {p : ℕ} {m e : ℤ} (h : IsSci q p m e) :
    ((10 : ℚ) ^ p - 1 / 2) * (10 : ℚ) ^ (e - p) ≤ q := by
  have hpos : (0 : ℚ) < (10 : ℚ) ^ (e - p) := by positivity
  have hlo := mul_le_mul_of_nonneg_right h.lo hpos.le
  linarith [(abs_sub_le_iff.mp h.err).2]

/-- where 95 comes from: from `E = 2` on, `q ≥ (10 − ½)·10` -/
theorem E_le_one_of_lt {q : ℚ} {m E : ℤ} (h : IsSci q 1 m E) (hq : q < 95) : E ≤ 1 := by
  by_contra hc
  have hE : (10 : ℚ) ^ (1 : ℤ) ≤ (10 : ℚ) ^ (E - (1 : ℕ)) := zpow_le_zpow_right₀ (by norm_num) (by push_cast; omega)
  have : (95 : ℚ) ≤ q :=
    calc (95 : ℚ) = ((10 : ℚ) ^ 1 - 1 / 2) * (10 : ℚ) ^ (1 : ℤ) := by norm_num
      _ ≤ ((10 : ℚ) ^ 1 - 1 / 2) * (10 : ℚ) ^ (E - (1 : ℕ)) := mul_le_mul_of_nonneg_left hE (by norm_num)
      _ ≤ q := ge_of_isSci h
  linarith

theorem zpow10_le_one {k : ℤ} (hk : k ≤ 0) : (10 : ℚ) ^ k ≤ 1 :=
  zpow_le_one_of_nonpos₀ (by norm_num) hk

/-! ### the three formulas extracted from the source
Stated once, in the spelling of the function body. -/

theorem fmtExp_eq (xe ee : ℤ) : Gen.fmtExp xe ee = max xe (ee + 1) := by
  simp only [Gen.fmtExp, Gen.Default.fmtExp]

theorem fmtHide_eq (k : ℤ) (lt : Bool) :
    Gen.fmtHide k lt = ((decide (k = 0) || decide (k = -1)) || (decide (k = 1) && lt)) := by
  simp only [Gen.fmtHide, Gen.Default.fmtHide]

theorem fmtDigits_eq (e : ℤ) : Gen.fmtDigits e = max (1 - e) 0 := by
  simp only [Gen.fmtDigits, Gen.Default.fmtDigits]

/-- number of decimals shown = `1 − E` (the last shown digit of the value is the second digit of the error) -/
theorem digits_eq {E : ℤ} (hE : E ≤ 1) : (((Gen.fmtDigits E).toNat : ℕ) : ℤ) = 1 - E := by
  rw [fmtDigits_eq]
  omega

theorem format_some {i : Inp} {o : Out} (h : format i = some o) :
    ∃ k m E, kOf i = some k ∧ sci (shownErr i k) 1 = some (m, E) ∧
      o = { neg := i.neg, n := (fixed (shownX i k) (Gen.fmtDigits E).toNat).toNat, d := (Gen.fmtDigits E).toNat,
            m := m.toNat, k := if hide i k then none else some k } := by
  unfold format at h
  split at h
  · simp at h
  · rename_i k hk
    split at h
    · simp at h
    · rename_i r hr
      refine ⟨k, r.1, r.2, hk, hr, ?_⟩
      simp only [Option.some.injEq] at h
      exact h.symm

theorem kOf_some {i : Inp} {k : ℤ} (h : kOf i = some k) :
    ∃ xe m6 ee, expOf i.ax = some xe ∧ sci i.err 6 = some (m6, ee) ∧ k = Gen.fmtExp xe ee := by
  unfold kOf at h
  split at h
  · rename_i xe r h1 h2
    exact ⟨xe, r.1, r.2, h1, h2, by simpa using h.symm⟩
  · simp at h

theorem cast_toNat {z : ℤ} (hz : 0 ≤ z) : ((z.toNat : ℕ) : ℚ) = (z : ℚ) := by
  rw [← Int.cast_natCast, Int.toNat_of_nonneg hz]

theorem gapOk_spec {i : Inp} {k : ℤ} {τ : ℚ} (h : gapOk i k τ = true) :
    0 ≤ i.axs ∧ |i.axs * (10 : ℚ) ^ k - i.ax| ≤ τ * i.ax ∧ |i.errs * (10 : ℚ) ^ k - i.err| ≤ τ * i.err := by
  simp only [gapOk, Bool.and_eq_true, decide_eq_true_eq, pow10_eq] at h
  obtain ⟨⟨⟨⟨h1, h2⟩, h3⟩, h4⟩, h5⟩ := h
  have hpos : (0 : ℚ) < (10 : ℚ) ^ k := by positivity
  have key : ∀ v v' : ℚ, v' - v / (10 : ℚ) ^ k ≤ τ * (v / (10 : ℚ) ^ k) → v / (10 : ℚ) ^ k - v' ≤ τ * (v / (10 : ℚ) ^ k) →
      |v' * (10 : ℚ) ^ k - v| ≤ τ * v := by
    intro v v' ha hb
    have h := abs_sub_mul_le hpos (abs_sub_le_iff.mpr ⟨ha, hb⟩)
    rwa [mul_assoc, div_mul_cancel₀ _ hpos.ne'] at h
  exact ⟨h1, key _ _ h2 h3, key _ _ h4 h5⟩

theorem shownX_nonneg {i : Inp} {k : ℤ} {τ : ℚ} (hax : 0 ≤ i.ax) (hgap : hide i k = false → gapOk i k τ = true) :
    0 ≤ shownX i k := by
  unfold shownX
  cases hh : hide i k
  · simpa using (gapOk_spec (hgap hh)).1
  · simpa using hax

theorem shown_close {i : Inp} {k : ℤ} {τ : ℚ} (hτ0 : 0 ≤ τ) (herr : 0 < i.err) (hax : 0 ≤ i.ax)
    (hgap : hide i k = false → gapOk i k τ = true) :
    |shownX i k * (10 : ℚ) ^ shownExp i k - i.ax| ≤ τ * i.ax ∧
      |shownErr i k * (10 : ℚ) ^ shownExp i k - i.err| ≤ τ * i.err := by
  unfold shownX shownErr shownExp
  cases hh : hide i k
  · simpa using (gapOk_spec (hgap hh)).2
  · simpa using ⟨mul_nonneg hτ0 hax, mul_nonneg hτ0 herr.le⟩

end Fmt
