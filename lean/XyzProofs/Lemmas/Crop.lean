import XyzModel.Crop
import XyzProofs.Lemmas.PyDict
/-! Lemmas of the coarse crop model's own definitions: the association lists, what each operation leaves of the
directory, the Reaper's stream file by file, what a successful gather went through, the key sets of the batch and result
files with the well-formed directories (`WF`), and `check_bad` as a fold. -/
namespace Crop
open Core List

variable {γ β : Type}

theorem lookup_nil (k : Nat) : lookup ([] : List (Nat × γ)) k = none := rfl

/-- `lookup`, `erase` and `insert` are `Gen.Py.dictGet`, `dictErase` and "erase, then append" by definition (Lemmas/PyDict.lean) -/
theorem lookup_insert (l : List (Nat × γ)) (k k' : Nat) (v : γ) :
    lookup (insert l k v) k' = if k' = k then some v else lookup l k' := by
  have h : lookup (insert l k v) k' = if (k' == k) = true then some v else lookup l k' :=
    Gen.Py.get_erase_append l k k' v
  simpa only [beq_iff_eq] using h

theorem lookup_erase (l : List (Nat × γ)) (k k' : Nat) :
    lookup (erase l k) k' = if k' = k then none else lookup l k' := by
  have h : lookup (erase l k) k' = if (k' == k) = true then none else lookup l k' := Gen.Py.get_erase l k k'
  simpa only [beq_iff_eq] using h

theorem lookup_foldl_insert_enumFrom (old : List (Nat × γ)) (new : List γ) (off k : Nat) :
    lookup ((enumFrom off new).foldl (fun acc kv => insert acc kv.1 kv.2) old) k =
      if h : off ≤ k ∧ k < off + new.length then some (new[k - off]'(by omega)) else lookup old k := by
  induction new generalizing old off with
  | nil => rw [dif_neg (by simp)]; rfl
  | cons x xs ih =>
    simp only [enumFrom, List.foldl_cons, ih, lookup_insert, List.length_cons]
    by_cases hk : k = off
    · subst hk
      rw [dif_neg (by omega), dif_pos (by omega)]
      simp
    · by_cases h1 : off + 1 ≤ k ∧ k < off + 1 + xs.length
      · have h2 : off ≤ k ∧ k < off + (xs.length + 1) := by omega
        have : k - off = (k - (off + 1)) + 1 := by omega
        simp only [h1, h2, and_self, dite_true, this, List.getElem_cons_succ]
      · have h2 : ¬ (off ≤ k ∧ k < off + (xs.length + 1)) := by omega
        simp only [h1, h2, dite_false, hk, if_false]

theorem lookup_foldl_insert_enum (old : List (Nat × γ)) (new : List γ) (k : Nat) :
    lookup ((enumFrom1 new).foldl (fun acc kv => insert acc kv.1 kv.2) old) k =
      if h : 1 ≤ k ∧ k ≤ new.length then some (new[k - 1]'(by omega)) else lookup old k := by
  rw [enumFrom1, lookup_foldl_insert_enumFrom]
  by_cases h : 1 ≤ k ∧ k ≤ new.length
  · rw [dif_pos h, dif_pos (by omega)]
  · rw [dif_neg h, dif_neg (by omega)]

theorem lookup_erase_self (l : List (Nat × γ)) (k : Nat) : lookup (erase l k) k = none := by
  simp [lookup_erase]

theorem cleanUpResolved_eq (cleanUp : Option Bool) (allowIncomplete : Bool) :
    cleanUpResolved cleanUp allowIncomplete = cleanUp.getD (!allowIncomplete) := by
  cases cleanUp <;> simp [cleanUpResolved, Gen.cleanUpDefault, Gen.Default.cleanUpDefault]

/-! ### queries and reloads leave the directory alone -/

theorem syncFromDisk_dir (s : St β) : (syncFromDisk s).dir = s.dir := by
  unfold syncFromDisk
  split <;> rfl

theorem calcProgress_dir (s : St β) : (calcProgress s).1.dir = s.dir := by
  unfold calcProgress
  split
  · split
    · exact syncFromDisk_dir s
    · rfl
  · rfl

theorem isReady_dir (s : St β) : (isReady s).1.dir = s.dir := calcProgress_dir s

theorem readyGate_dir (s : St β) (a w : Bool) : (readyGate s a w).1.dir = s.dir := by
  unfold readyGate
  split
  · rfl
  · exact isReady_dir s

theorem readyGate_snd_congr (s s' : St β) (a w : Bool) (h : s'.dir = s.dir) : (readyGate s' a w).2 = (readyGate s a w).2 := by
  unfold readyGate
  split
  · rfl
  · unfold isReady calcProgress
    rw [h]
    cases s.dir with
    | none => rfl
    | some d => simp only; split <;> rfl

theorem opNew_dir (s : St β) (bs nb : Option Nat) (sh : Nat) : (opNew s bs nb sh).dir = s.dir :=
  syncFromDisk_dir _

theorem missingResults_dir (s : St β) : (missingResults s).1.dir = s.dir := by
  unfold missingResults
  have h := calcProgress_dir s
  generalize calcProgress s = cp at h ⊢
  obtain ⟨s', p⟩ := cp
  simp only at h ⊢
  split <;> exact h

theorem growOne_ok_iff (f : List Nat → β) (fails : List Nat → Bool) (d d' : Dir β) (i : Nat) :
    growOne f fails d i = .ok d' ↔ ∃ b, lookup d.batches i = some b ∧ b ≠ [] ∧ b.any fails = false ∧
      d' = { d with results := insert d.results i (.good (b.map f)) } := by
  unfold growOne
  cases lookup d.batches i with
  | none => simp
  | some b =>
    -- `any_eq_false` / `any_eq_true` are kept out: they would turn `b.any fails = false` into a `∀`, which `hf` no longer matches
    by_cases hne : b = [] <;> cases hf : b.any fails
    all_goals simp [hne, hf, eq_comm (a := d'), -List.any_eq_false, -List.any_eq_true]

/-- what result file `i` contributes to the Reaper's stream: its content, or one stand-in per setting of batch file `i`
(`reapStep`'s `o : Obj` is not read: the stand-in is sized from the batch file, not from `o.bs`) -/
def reapFile (d : Dir β) (dflt : Option β) (i : Nat) : Except Err (List β) :=
  match lookup d.results i with
  | some (.good rs) => if rs.isEmpty then .error .badFile else .ok rs
  | some .bad => .error .badFile
  | none =>
    match dflt, lookup d.batches i with
    | some ph, some b => .ok (List.replicate b.length ph)
    | _, _ => .error .missingFile

theorem reapStep_ok (o : Obj) (d : Dir β) (dflt : Option β) (stream : List β) (i0 : Nat) :
    reapStep o d dflt (.ok stream) i0 = (reapFile d dflt (i0 + 1)).map (stream ++ ·) := by
  unfold reapStep reapFile
  cases lookup d.results (i0 + 1) with
  | none => cases dflt <;> cases lookup d.batches (i0 + 1) <;> rfl
  | some r =>
    cases r with
    | bad => rfl
    | good rs => simp only []; split <;> rfl

theorem reapStream_succ (o : Obj) (d : Dir β) (n : Nat) (dflt : Option β) :
    reapStream o d (n + 1) dflt = reapStep o d dflt (reapStream o d n dflt) n := by
  simp [reapStream, List.range_succ]

theorem reapStream_of_parts (o : Obj) (d : Dir β) (dflt : Option β) (parts : List (List β))
    (h : ∀ j (hj : j < parts.length), reapFile d dflt (j + 1) = .ok parts[j]) :
    reapStream o d parts.length dflt = .ok parts.flatten := by
  suffices hs : ∀ m, m ≤ parts.length → reapStream o d m dflt = .ok (parts.take m).flatten by
    simpa using hs parts.length (Nat.le_refl _)
  intro m
  induction m with
  | zero => intro _; simp [reapStream]
  | succ k ih =>
    intro hk
    rw [reapStream_succ, ih (Nat.le_of_succ_le hk), reapStep_ok, h k hk]
    simp only [Except.map, List.take_succ_eq_append_getElem hk, List.flatten_append, List.flatten_cons, List.flatten_nil,
      List.append_nil]

theorem reapStream_ok_files (o : Obj) (d : Dir β) (dflt : Option β) (nb : Nat) (st : List β)
    (h : reapStream o d nb dflt = .ok st) : ∀ j, j < nb → ∃ rs, reapFile d dflt (j + 1) = .ok rs := by
  induction nb generalizing st with
  | zero => intro j hj; omega
  | succ k ih =>
    rw [reapStream_succ] at h
    cases hprev : reapStream o d k dflt with
    | error e => rw [hprev] at h; cases h
    | ok st0 =>
      rw [hprev, reapStep_ok] at h
      intro j hj
      rcases Nat.lt_succ_iff_lt_or_eq.mp hj with hjk | rfl
      · exact ih st0 hprev j hjk
      · cases hf : reapFile d dflt (j + 1) with
        | error e => rw [hf] at h; cases h
        | ok rs => exact ⟨rs, rfl⟩

theorem reapLinear_ok (P : Perms) (nl : β → β) (s s1 : St β) (o : ReapOpts) (info : Info) (r : List β)
    (h : reapLinear P nl s o = .ok (s1, info, r)) :
    (readyGate s o.allowIncomplete o.wait).2 = true ∧ s1 = (readyGate s o.allowIncomplete o.wait).1 ∧
    ∃ d dflt stream, s.dir = some d ∧ d.info = some info ∧
      (if o.allowIncomplete then (allNanResult nl d).map some else .ok none) = .ok dflt ∧
      reapStream s1.obj d info.nb (if o.wait then none else dflt) = .ok stream ∧
      reorder P info.shuffle info.sweep.locs.length stream = .ok r := by
  unfold reapLinear at h
  have hg := readyGate_dir s o.allowIncomplete o.wait
  generalize readyGate s o.allowIncomplete o.wait = g at h hg
  obtain ⟨g1, g2⟩ := g
  simp only at h hg
  split at h
  · cases h
  rename_i hready
  split at h
  · cases h
  rename_i d hd
  split at h
  · cases h
  rename_i dflt hdflt
  split at h
  · cases h
  rename_i i hinfo
  split at h
  · cases h
  rename_i stream hstream
  split at h
  · cases h
  rename_i results hres
  cases h
  exact ⟨by simpa using hready, rfl, d, dflt, stream, hg ▸ hd, hinfo, hdflt, hstream, hres⟩

theorem reapLinear_dir (P : Perms) (nl : β → β) (s s1 : St β) (o : ReapOpts) (info : Info) (r : List β)
    (h : reapLinear P nl s o = .ok (s1, info, r)) : s1.dir = s.dir := by
  rw [(reapLinear_ok P nl s s1 o info r h).2.1]
  exact readyGate_dir s _ _

/-- a successful reap leaves the directory exactly as it was unless clean-up applies -/
theorem reapRaw_dir (P : Perms) (nl : β → β) (s s' : St β) (o : ReapOpts) (out : Nest β)
    (h : reapRaw P nl s o = .ok (s', out)) :
    s'.dir = if cleanUpResolved o.cleanUp o.allowIncomplete then none else s.dir := by
  unfold reapRaw at h
  split at h
  · cases h
  · rename_i s1 info results hlin
    cases h
    split
    · rfl
    · exact reapLinear_dir P nl s s1 o info results hlin

/-! ### the key sets of the batch and result files, well-formed directories, `check_bad` as a fold -/

def keys (l : List (Nat × γ)) : List Nat := l.map (·.1)

theorem mem_keys_iff (l : List (Nat × γ)) (k : Nat) : k ∈ keys l ↔ (lookup l k).isSome := by
  simp [keys, lookup]

theorem keys_filter_ne (l : List (Nat × γ)) (k : Nat) : keys (l.filter (·.1 != k)) = (keys l).filter (· != k) := by
  simp [keys, List.filter_map, Function.comp_def]

theorem keys_insert (l : List (Nat × γ)) (k : Nat) (v : γ) : keys (insert l k v) = (keys l).filter (· != k) ++ [k] := by
  rw [insert, ← keys_filter_ne]; simp [keys]

theorem keys_erase (l : List (Nat × γ)) (k : Nat) : keys (erase l k) = (keys l).filter (· != k) := keys_filter_ne l k

theorem nodup_keys_insert (l : List (Nat × γ)) (k : Nat) (v : γ) (h : (keys l).Nodup) : (keys (insert l k v)).Nodup := by
  rw [keys_insert]
  exact List.nodup_append.mpr ⟨h.filter _, by simp, fun a ha =>
    List.forall_mem_singleton.mpr (by simpa using (List.mem_filter.mp ha).2)⟩

theorem nodup_keys_erase (l : List (Nat × γ)) (k : Nat) (h : (keys l).Nodup) : (keys (erase l k)).Nodup := by
  rw [keys_erase]; exact h.filter _

theorem mem_keys_insert (l : List (Nat × γ)) (k i : Nat) (v : γ) : i ∈ keys (insert l k v) ↔ i = k ∨ i ∈ keys l := by
  by_cases h : i = k <;> simp [keys_insert, h]

theorem mem_keys_erase (l : List (Nat × γ)) (k i : Nat) : i ∈ keys (erase l k) ↔ i ≠ k ∧ i ∈ keys l := by
  rw [keys_erase]; simp [List.mem_filter, and_comm]

theorem length_keys (l : List (Nat × γ)) : (keys l).length = l.length := by simp [keys]

/-- well-formed crop directory with `B` batches: batch files are exactly `1..B`, result files are a duplicate-free
subset of them -/
structure WF (d : Dir β) (B : Nat) : Prop where
  bnodup : (keys d.batches).Nodup
  bmem : ∀ i, i ∈ keys d.batches ↔ 1 ≤ i ∧ i ≤ B
  rnodup : (keys d.results).Nodup
  rsub : ∀ i ∈ keys d.results, 1 ≤ i ∧ i ≤ B

/-- a stored result is bad w.r.t. the batch file of the same id: unreadable, or of the wrong length -/
def badEntry (batches : List (Nat × List (List Nat))) (kv : Nat × ResFile β) : Bool :=
  match kv.2 with
  | .bad => true
  | .good rs =>
    match lookup batches kv.1 with
    | some b => rs.length != b.length
    | none => false

/-- the loop body of `checkBad`, spelled out so the fold lemma can name it -/
def checkBadStep (d : Dir β) (acc : Except Err (Dir β × List Nat)) (kv : Nat × ResFile β) :
    Except Err (Dir β × List Nat) :=
  match acc with
  | .error e => .error e
  | .ok (d', bad) =>
    match lookup d.batches kv.1 with
    | none => .error .missingFile
    | some b =>
      let isBad := match kv.2 with
        | .bad => true
        | .good rs => rs.length != b.length
      if isBad then .ok ({ d' with results := erase d'.results kv.1 }, bad ++ [kv.1]) else .ok (d', bad)

theorem checkBadStep_ok (d d' : Dir β) (bad : List Nat) (kv : Nat × ResFile β) (b : List (List Nat))
    (hb : lookup d.batches kv.1 = some b) :
    checkBadStep d (.ok (d', bad)) kv =
      if badEntry d.batches kv then .ok ({ d' with results := erase d'.results kv.1 }, bad ++ [kv.1]) else .ok (d', bad) := by
  unfold checkBadStep badEntry
  cases kv.2 <;> simp [hb]

theorem checkBad_eq_fold (d : Dir β) : checkBad d = d.results.foldl (checkBadStep d) (.ok (d, [])) := rfl

theorem checkBad_fold (d : Dir β) (l R : List (Nat × ResFile β)) (bad0 : List Nat)
    (hl : ∀ kv ∈ l, (lookup d.batches kv.1).isSome = true) :
    l.foldl (checkBadStep d) (.ok ({ d with results := R }, bad0)) =
      .ok ({ d with results := R.filter (fun kv => !(keys (l.filter (badEntry d.batches))).contains kv.1) },
           bad0 ++ keys (l.filter (badEntry d.batches))) := by
  induction l generalizing R bad0 with
  | nil =>
    have : R.filter (fun _ => true) = R := List.filter_eq_self.mpr (fun _ _ => rfl)
    simp [keys, this]
  | cons kv l ih =>
    obtain ⟨hkv, hl'⟩ := List.forall_mem_cons.mp hl
    obtain ⟨b, hb⟩ := Option.isSome_iff_exists.mp hkv
    rw [List.foldl_cons, checkBadStep_ok d _ _ kv b hb]
    by_cases hbad : badEntry d.batches kv = true
    · rw [if_pos hbad, ih _ _ hl', List.filter_cons_of_pos hbad, erase, List.filter_filter]
      simp [keys, Bool.and_comm, bne]
    · rw [if_neg hbad, ih _ _ hl', List.filter_cons_of_neg hbad]

theorem lookup_of_mem_nodup (l : List (Nat × γ)) (hnd : (keys l).Nodup) : ∀ kv ∈ l, lookup l kv.1 = some kv.2 :=
  fun _ hkv => Gen.Py.get_of_mem_nodup hnd hkv

theorem eq_of_key_eq (R : List (Nat × γ)) (hnd : (keys R).Nodup) (a b : Nat × γ) (ha : a ∈ R) (hb : b ∈ R)
    (h : a.1 = b.1) : a = b := by
  have h2 := (lookup_of_mem_nodup R hnd a ha).symm.trans (h ▸ lookup_of_mem_nodup R hnd b hb)
  exact Prod.ext h (Option.some.inj h2)

end Crop
