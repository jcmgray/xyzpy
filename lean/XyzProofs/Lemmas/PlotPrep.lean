import XyzModel.PlotPrep
import XyzProofs.Lemmas.Core
/-! Lemmas about the model `PlotPrep` (C17): boolean masks, index enumeration, the series and the grid of panels; and the
definitions the property theorems of `Props/C17.lean` are stated with (the arrays of a slice, the selection a grid position
stands for, the colour of a quantity). -/
namespace PlotPrep
open List

variable {α β γ : Type}

theorem applyMask_nil_left (l : List α) : applyMask [] l = [] := by simp [applyMask]
theorem applyMask_nil_right (m : List Bool) : applyMask m ([] : List α) = [] := by simp [applyMask]

theorem applyMask_cons (b : Bool) (m : List Bool) (x : α) (xs : List α) :
    applyMask (b :: m) (x :: xs) = if b then x :: applyMask m xs else applyMask m xs := by
  cases b <;> simp [applyMask]

theorem applyMask_eq_filterMap (m : List Bool) (l : List α) :
    applyMask m l = (m.zip l).filterMap fun p => if p.1 then some p.2 else none := by
  rw [applyMask, ← filterMap_eq_filter, map_filterMap]
  congr 1
  funext ⟨b, a⟩
  cases b <;> rfl

theorem applyMask_zip : ∀ (m : List Bool) (xs : List α) (ys : List β),
    (applyMask m xs).zip (applyMask m ys) = applyMask m (xs.zip ys)
  | [], _, _ => by simp [applyMask]
  | _ :: _, [], _ => by simp [applyMask]
  | _ :: _, _ :: _, [] => by simp [applyMask]
  | b :: m, x :: xs, y :: ys => by
    simp only [applyMask_cons, zip_cons_cons]
    cases b <;> simp [applyMask_zip m xs ys]

theorem applyMask_map_self (p : α → Bool) : ∀ l : List α, applyMask (l.map p) l = l.filter p
  | [] => by simp [applyMask]
  | a :: l => by
    rw [map_cons, applyMask_cons, applyMask_map_self p l]
    cases h : p a <;> simp [h]

theorem applyMask_map_zip (p : α → Bool) : ∀ (l : List α) (zs : List γ),
    applyMask (l.map p) (l.zip zs) = (l.zip zs).filter fun t => p t.1
  | [], _ => by simp [applyMask]
  | _ :: _, [] => by simp [applyMask]
  | a :: l, z :: zs => by
    rw [map_cons, zip_cons_cons, applyMask_cons, applyMask_map_zip p l zs]
    cases h : p a <;> simp [h]

theorem applyMask_zipWith_zip (f : α → β → Bool) (xs : List α) (ys : List β) :
    (applyMask (zipWith f xs ys) xs).zip (applyMask (zipWith f xs ys) ys) =
      (xs.zip ys).filter fun p => f p.1 p.2 := by
  rw [applyMask_zip, ← applyMask_map_self (fun p : α × β => f p.1 p.2), map_zip_eq_zipWith]
  rfl

theorem applyMask_zipWith_zip₃ (f : α → β → Bool) (xs : List α) (ys : List β) (zs : List γ) :
    ((applyMask (zipWith f xs ys) xs).zip (applyMask (zipWith f xs ys) ys)).zip (applyMask (zipWith f xs ys) zs) =
      ((xs.zip ys).zip zs).filter fun t => f t.1.1 t.1.2 := by
  rw [applyMask_zip, applyMask_zip, ← applyMask_map_zip (fun p : α × β => f p.1 p.2), map_zip_eq_zipWith]
  rfl

theorem applyMask_all_false (m : List Bool) (l : List α) (h : ∀ b ∈ m, b = false) : applyMask m l = [] := by
  have : (m.zip l).filter (·.1) = [] := filter_eq_nil_iff.mpr fun p hp => by simp [h p.1 (of_mem_zip hp).1]
  simp [applyMask, this]

theorem applyMask_sublist (m : List Bool) (l : List α) : (applyMask m l).Sublist l := by
  induction m generalizing l with
  | nil => simp [applyMask]
  | cons b m ih =>
    cases l with
    | nil => simp [applyMask]
    | cons x xs =>
      rw [applyMask_cons]
      cases b
      · simpa using (ih xs).trans (sublist_cons_self x xs)
      · simpa using (ih xs)

theorem length_applyMask (m : List Bool) (l : List α) (h : m.length ≤ l.length) :
    (applyMask m l).length = m.count true := by
  induction m generalizing l with
  | nil => simp [applyMask]
  | cons b m ih =>
    cases l with
    | nil => simp at h
    | cons x xs =>
      rw [applyMask_cons]
      have := ih xs (by simpa using h)
      cases b <;> simp [this]

theorem mem_zipWith_zip (f : α → β → γ) : ∀ (xs : List α) (ys : List β) (c : γ),
    c ∈ zipWith f xs ys → ∃ p ∈ xs.zip ys, c = f p.1 p.2 := by
  intro xs ys c h
  rw [← map_uncurry_zip_eq_zipWith] at h
  obtain ⟨p, hp, rfl⟩ := mem_map.mp h
  exact ⟨p, hp, rfl⟩

theorem prod_eq_product (shape : List Nat) : prod shape = Core.product (shape.map range) := by
  induction shape with
  | nil => rfl
  | cons n rest ih => simp only [prod, Core.product, map_cons, ih]

theorem length_prod (shape : List Nat) : (prod shape).length = shape.foldr (· * ·) 1 := by
  induction shape with
  | nil => simp [prod]
  | cons n rest ih =>
    simp only [prod, length_flatMap, length_map, ih, foldr_cons]
    induction n with
    | zero => simp
    | succ k ihk => simp [range_succ, ihk, Nat.succ_mul]

theorem mem_prod (shape : List Nat) (p : List Nat) :
    p ∈ prod shape ↔ p.length = shape.length ∧ ∀ k (h : k < p.length) (h' : k < shape.length), p[k] < shape[k] := by
  induction shape generalizing p with
  | nil =>
    simp only [prod, mem_singleton, length_nil]
    constructor
    · rintro rfl; simp
    · rintro ⟨h, _⟩; exact length_eq_zero_iff.mp h
  | cons n rest ih =>
    simp only [prod, mem_flatMap, mem_range, mem_map]
    constructor
    · rintro ⟨i, hi, q, hq, rfl⟩
      obtain ⟨hl, hb⟩ := (ih q).mp hq
      refine ⟨by simp [hl], ?_⟩
      intro k h h'
      cases k with
      | zero => simpa using hi
      | succ k => simpa using hb k (by simpa using h) (by simpa using h')
    · rintro ⟨hl, hb⟩
      cases p with
      | nil => simp at hl
      | cons i q =>
        have h0 := hb 0 (by simp) (by simp)
        simp only [getElem_cons_zero] at h0
        refine ⟨i, h0, q, (ih q).mpr ⟨by simpa using hl, ?_⟩, rfl⟩
        intro k h h'
        have hk := hb (k + 1) (by simpa using h) (by simpa using h')
        simpa only [getElem_cons_succ] using hk

theorem nodup_prod (shape : List Nat) : (prod shape).Nodup := by
  rw [prod_eq_product]
  exact Core.product_nodup _ (by simp [nodup_range])

theorem label_mkSeries (vw : View) (call : Call) (xn yn : String) (carry : Bool) (lab : Option String) :
    (mkSeries vw call xn yn carry lab).label = lab := rfl

theorem xySeries_labels (vw : View) (call : Call) (zs : List ZVal) :
    (xySeries vw call zs).map (·.label) = prepareZLabels zs := by
  simp only [xySeries, prepareZLabels, map_map]
  apply map_congr_left
  intro zv _
  cases zv <;> rfl

theorem hist_labels (vw : View) (call : Call) (zs : List ZVal) :
    (prepareHistogram vw call zs).map (·.label) = prepareZLabels zs := by
  simp only [prepareHistogram, prepareZLabels, map_map]
  apply map_congr_left
  intro zv _
  cases zv <;> rfl

theorem series_plotSingle (vw : View) (call : Call) (h : call.kind ≠ .heatmap) :
    (plotSingle vw call).series =
      if call.kind = .histogram then prepareHistogram vw call (prepareZVals vw.ds call)
      else xySeries vw call (prepareZVals vw.ds call) := by
  cases hk : call.kind
  case heatmap => exact absurd hk h
  all_goals simp [plotSingle, prepareDataSingle, stepData, stepLegend, stepZLabels, stepZVals, hk]

theorem single_not_mem_prepareZVals (m : DS) (call : Call) (h : (call.z.isSome || call.multi) = true) :
    ZVal.single ∉ prepareZVals m call := by
  cases hz : call.z with
  | some z => simp [prepareZVals, hz]
  | none =>
    have hm : call.multi = true := by simpa [hz] using h
    simp [prepareZVals, hz, hm]

/-- the flattened x and y arrays of a slice (what `gen_xy` masks) -/
def sliceXs (vw : View) (call : Call) (xn yn : String) (carry : Bool) : List Cell :=
  vw.flat (vw.bdims ([xn, yn] ++ if carry then carriedNames call else [])) xn

def sliceYs (vw : View) (call : Call) (xn yn : String) (carry : Bool) : List Cell :=
  vw.flat (vw.bdims ([xn, yn] ++ if carry then carriedNames call else [])) yn

def sliceOf (vw : View) (call : Call) (xn yn : String) (carry : Bool) (n : String) : List Cell :=
  vw.flat (vw.bdims ([xn, yn] ++ if carry then carriedNames call else [])) n

/-- the slice arrays are the variables evaluated at every index tuple of the broadcast dimensions, in C order -/
theorem sliceOf_eq (vw : View) (call : Call) (xn yn : String) (carry : Bool) (n : String) :
    sliceOf vw call xn yn carry n =
      (prod ((vw.bdims ([xn, yn] ++ if carry then carriedNames call else [])).map vw.ds.size)).map fun p =>
        vw.ds.cell n (vw.envOf (vw.bdims ([xn, yn] ++ if carry then carriedNames call else [])) p) := rfl

/-- no array besides x and y enters the mask (from the extracted list of mask arrays) -/
theorem extraMaskNames_nil (call : Call) (xn yn : String) (carry : Bool) : extraMaskNames call xn yn carry = [] := by
  simp only [extraMaskNames, Gen.maskArrays, Gen.Default.maskArrays]
  rfl

theorem notNull_mkSeries (vw : View) (call : Call) (xn yn : String) (carry : Bool) (bd : List String) (xs ys : List Cell) :
    notNull vw bd xs ys (extraMaskNames call xn yn carry) =
      zipWith (fun a b => Gen.maskIsBothFinite a.isFinite b.isFinite) xs ys := by
  rw [extraMaskNames_nil]
  rfl

theorem carried_mkSeries (vw : View) (call : Call) (xn yn : String) (lab : Option String) :
    (mkSeries vw call xn yn true lab).ye = call.yErr.map (fun n => applyMask
      (zipWith (fun a b => Gen.maskIsBothFinite a.isFinite b.isFinite) (sliceXs vw call xn yn true) (sliceYs vw call xn yn true))
      (sliceOf vw call xn yn true n)) ∧
    (mkSeries vw call xn yn true lab).xe = call.xErr.map (fun n => applyMask
      (zipWith (fun a b => Gen.maskIsBothFinite a.isFinite b.isFinite) (sliceXs vw call xn yn true) (sliceYs vw call xn yn true))
      (sliceOf vw call xn yn true n)) ∧
    (call.kind = .scatter → (mkSeries vw call xn yn true lab).c = call.c.map (fun n => applyMask
      (zipWith (fun a b => Gen.maskIsBothFinite a.isFinite b.isFinite) (sliceXs vw call xn yn true) (sliceYs vw call xn yn true))
      (sliceOf vw call xn yn true n))) := by
  refine ⟨?_, ?_, ?_⟩
  · simp only [mkSeries, notNull_mkSeries, sliceXs, sliceYs, sliceOf, if_true]
  · simp only [mkSeries, notNull_mkSeries, sliceXs, sliceYs, sliceOf, if_true]
  · intro hk
    simp [mkSeries, notNull_mkSeries, hk, sliceXs, sliceYs, sliceOf]

theorem xy_mkSeries (vw : View) (call : Call) (xn yn : String) (carry : Bool) (lab : Option String) :
    (mkSeries vw call xn yn carry lab).x = applyMask
      (zipWith (fun a b => Gen.maskIsBothFinite a.isFinite b.isFinite) (sliceXs vw call xn yn carry) (sliceYs vw call xn yn carry))
      (sliceXs vw call xn yn carry) ∧
    (mkSeries vw call xn yn carry lab).y = applyMask
      (zipWith (fun a b => Gen.maskIsBothFinite a.isFinite b.isFinite) (sliceXs vw call xn yn carry) (sliceYs vw call xn yn carry))
      (sliceYs vw call xn yn carry) := by
  refine ⟨?_, ?_⟩ <;> simp only [mkSeries, notNull_mkSeries, sliceXs, sliceYs]

/-- the cells of the slice a histogram series is taken from -/
def histCells (vw : View) (call : Call) (zv : ZVal) : List Cell :=
  let sv := sliceView vw call zv
  let n := match zv with
    | .var n => n
    | _ => call.x1
  sv.flat (sv.freeDims n) n

theorem maskInvalid_spec (c : Cell) : maskInvalid c = c ∨ (c.isFinite = false ∧ maskInvalid c = .nan) := by
  cases c <;> simp [maskInvalid, Cell.isFinite]

/-- the selection a grid position stands for -/
def gridFixed (row col : Option String) (i j : Nat) : Env :=
  (match row with | some d => [(d, i)] | none => []) ++ (match col with | some d => [(d, j)] | none => [])

def nRows (ds : DS) (row : Option String) : Nat := match row with | some r => ds.size r | none => 1

def nCols (ds : DS) (col : Option String) : Nat := match col with | some c => ds.size c | none => 1

theorem labels_length (m : DS) (d : String) : (m.labels d).length = m.size d := by
  simp only [DS.labels, DS.size]
  cases m.dim? d <;> simp

theorem map_mapIdx_labels (m : DS) (d : String) (f : Nat × String → β) :
    ((m.labels d).mapIdx fun i l => (i, l)).map f = (range (m.size d)).map fun i => f (i, (m.labels d).getD i "") := by
  apply ext_getElem
  · simp [labels_length]
  · intro i h1 h2
    have hi : i < (m.labels d).length := by simpa using h1
    simp [getElem?_eq_getElem hi]

theorem mapIdx_map_range (n : Nat) (g : Nat → α) (f : Nat → α → β) :
    ((range n).map g).mapIdx f = (range n).map fun i => f i (g i) := by
  apply ext_getElem <;> simp

theorem calcRowCol_eq (ds : DS) (row col : Option String) :
    calcRowCol ds row col =
      (range (nRows ds row)).map fun i => (range (nCols ds col)).map fun j => (i, j, gridFixed row col i j) := by
  cases row <;> cases col <;> simp [calcRowCol, nRows, nCols, gridFixed, mapIdx_map_range]

theorem calcRowCol_get (ds : DS) (row col : Option String) (i j : Nat) (hi : i < nRows ds row) (hj : j < nCols ds col) :
    ((calcRowCol ds row col)[i]?).bind (·[j]?) = some (i, j, gridFixed row col i j) := by
  simp [calcRowCol_eq, hi, hj]

theorem calcRowCol_shape (ds : DS) (row col : Option String) :
    (calcRowCol ds row col).length = nRows ds row ∧ ∀ r ∈ calcRowCol ds row col, r.length = nCols ds col := by
  rw [calcRowCol_eq]
  refine ⟨by simp, ?_⟩
  intro r hr
  obtain ⟨i, _, rfl⟩ := mem_map.mp hr
  simp

theorem gridTitle_spec (ds : DS) (call : Call) (c : String) (hc : call.col = some c) (i j : Nat) :
    gridTitle ds call i j = if i = 0 then some s!"{c} = {(ds.tlabels c).getD j ""}" else none := by
  simp [gridTitle, hc]

theorem gridRowLabel_spec (ds : DS) (call : Call) (r : String) (hr : call.row = some r) (i j n : Nat) :
    gridRowLabel ds call i j n = if j + 1 = n then some s!"{r} = {(ds.tlabels r).getD i ""}" else none := by
  simp [gridRowLabel, hr]

/-- the colour a quantity is mapped to, for an arbitrary colour map `cmap`, normalisation `norm` of data values and
embedding `ofRat` of the relative positions used for non-numeric coordinates -/
def colourOf {Q C : Type} (cmap : Q → C) (norm : Cell → Q) (ofRat : Rat → Q) : Quant → C
  | .cell c => cmap (norm c)
  | .lin r => cmap (ofRat r)

theorem linspace01_first (n : Nat) : linspace01 0 n = 0 := by
  unfold linspace01
  split
  · rfl
  · simp [Rat.div_def]

/-- the extracted bound of `calc_use_legend_or_colorbar`: a legend by default for 2..10 series -/
theorem autoLegend_eq (n : Nat) : Gen.autoLegend (n : Int) = decide (1 < n ∧ n ≤ 10) := by
  simp only [Gen.autoLegend, Gen.Default.autoLegend]
  by_cases h1 : 1 < n <;> by_cases h2 : n ≤ 10 <;> simp [h1, h2] <;> omega

end PlotPrep
