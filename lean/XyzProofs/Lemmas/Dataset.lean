import XyzModel.Dataset
import XyzProofs.Lemmas.InsertSorted
import XyzProofs.Lemmas.PyDict
/-!
Facts about the finite-map datasets of `XyzModel/Dataset.lean`: the two lookups (`alookup`, `cget`) are `List.lookup`, so
core's and `Lemmas/PyDict`'s lemmas apply; the merges pointwise (`get_combineFirst`, `conflicts_iff`) and on coordinates
(`coordsOf_combineFirst`); what `expand_dims` needs of `insertKey` / `insertCoordDim`.
-/
namespace DS

/-! ### association lists: `alookup` and `cget` are `List.lookup` -/

theorem alookup_eq_lookup {β} (l : List (String × β)) (k : String) : alookup l k = l.lookup k := by
  induction l with
  | nil => rfl
  | cons e r ih =>
    obtain ⟨k', x⟩ := e
    by_cases h : k = k'
    · subst h; simp [alookup]
    · have hb : (k == k') = false := by simpa using h
      simp [alookup, List.lookup_cons, Ne.symm h, hb, ih]

theorem alookup_eq_get {β} (l : List (String × β)) (k : String) : alookup l k = Gen.Py.dictGet l k :=
  (alookup_eq_lookup l k).trans (Gen.Py.dictGet_eq_lookup l k).symm

theorem cget_eq_lookup (c : Cells) (p : Pt) : cget c p = c.lookup p := by
  induction c with
  | nil => rfl
  | cons e r ih =>
    obtain ⟨q, t⟩ := e
    by_cases h : p = q
    · subst h; simp [cget]
    · have hb : (p == q) = false := by simpa using h
      simp [cget, List.lookup_cons, Ne.symm h, hb, ih]

theorem alookup_append {β} (l₁ l₂ : List (String × β)) (k : String) :
    alookup (l₁ ++ l₂) k = (alookup l₁ k).orElse (fun _ => alookup l₂ k) := by
  simp [alookup_eq_lookup, List.lookup_append]

theorem alookup_map_val {β γ} (g : String → β → γ) (l : List (String × β)) (k : String) :
    alookup (l.map fun e => (e.1, g e.1 e.2)) k = (alookup l k).map (g k) := by
  simp only [alookup_eq_lookup, Gen.Py.lookup_map_val]

theorem alookup_filter_key {β} (P : String → Bool) (l : List (String × β)) (k : String) :
    alookup (l.filter fun e => P e.1) k = if P k then alookup l k else none := by
  simp only [alookup_eq_lookup, Gen.Py.lookup_filter_key]

theorem alookup_mem {β} (l : List (String × β)) (k : String) (x : β) (h : alookup l k = some x) : (k, x) ∈ l :=
  Gen.Py.mem_of_lookup l k x (alookup_eq_lookup l k ▸ h)

theorem alookup_isSome_of_mem {β} (l : List (String × β)) (k : String) (x : β) (h : (k, x) ∈ l) :
    (alookup l k).isSome = true := by
  rw [alookup_eq_lookup]; exact Gen.Py.lookup_isSome_of_mem l k x h

theorem alookup_of_mem_nodup {β} (l : List (String × β)) (k : String) (x : β) (hn : (l.map (·.1)).Nodup)
    (h : (k, x) ∈ l) : alookup l k = some x := by
  rw [alookup_eq_lookup]; exact Gen.Py.lookup_of_mem_nodup l k x hn h

theorem cget_append (a b : Cells) (p : Pt) : cget (a ++ b) p = (cget a p).orElse (fun _ => cget b p) := by
  simp [cget_eq_lookup, List.lookup_append]

theorem cget_filter_key (P : Pt → Bool) (b : Cells) (p : Pt) :
    cget (b.filter fun e => P e.1) p = if P p then cget b p else none := by
  simp only [cget_eq_lookup, Gen.Py.lookup_filter_key]

theorem cget_mem (c : Cells) (p : Pt) (t : Tok) (h : cget c p = some t) : (p, t) ∈ c :=
  Gen.Py.mem_of_lookup c p t (cget_eq_lookup c p ▸ h)

theorem cget_isSome_of_mem (c : Cells) (p : Pt) (t : Tok) (h : (p, t) ∈ c) : (cget c p).isSome = true := by
  rw [cget_eq_lookup]; exact Gen.Py.lookup_isSome_of_mem c p t h

theorem cget_combineFirst (a b : Cells) (p : Pt) :
    cget (combineFirst a b) p = (cget a p).orElse (fun _ => cget b p) := by
  unfold combineFirst
  rw [cget_append, cget_filter_key (fun q => (cget a q).isNone)]
  cases h : cget a p <;> simp

theorem cget_nil (p : Pt) : cget [] p = none := rfl

theorem cget_of_mem_nodup (c : Cells) (p : Pt) (t : Tok) (hn : (c.map (·.1)).Nodup) (h : (p, t) ∈ c) :
    cget c p = some t := by
  rw [cget_eq_lookup]; exact Gen.Py.lookup_of_mem_nodup c p t hn h

theorem conflict_iff (a b : Cells) :
    conflict a b = true ↔ ∃ p x y, cget a p = some x ∧ cget b p = some y ∧ x ≠ y := by
  unfold conflict
  rw [List.any_eq_true]
  constructor
  · rintro ⟨e, _, h⟩
    cases ha : cget a e.1 with
    | none => simp [ha] at h
    | some x =>
      cases hb : cget b e.1 with
      | none => simp [ha, hb] at h
      | some y =>
        simp only [ha, hb, bne_iff_ne, ne_eq] at h
        exact ⟨e.1, x, y, ha, hb, h⟩
  · rintro ⟨p, x, y, ha, hb, hne⟩
    exact ⟨(p, y), cget_mem b p y hb, by simp [ha, hb, hne]⟩

theorem cellsOf_mergeVars (f : Cells → Cells → Cells) (a b : List (String × Var)) (n : String)
    (hf : ∀ c, f [] c = c) :
    ((alookup (mergeVars f a b) n).map (·.cells)).getD [] =
      f (((alookup a n).map (·.cells)).getD []) (((alookup b n).map (·.cells)).getD []) := by
  unfold mergeVars
  rw [alookup_append,
    alookup_map_val (fun k (v : Var) => ({ v with cells := f v.cells (((alookup b k).map (·.cells)).getD []) } : Var)),
    alookup_filter_key (fun k => (alookup a k).isNone)]
  cases ha : alookup a n with
  | none => cases hb : alookup b n <;> simp [hf]
  | some v => simp

theorem Dataset.get_combineFirst (a b : Dataset) (n : String) (p : Pt) :
    (a.combineFirst b).get n p = (a.get n p).orElse (fun _ => b.get n p) := by
  unfold Dataset.get Dataset.cellsOf Dataset.combineFirst
  simp only
  rw [cellsOf_mergeVars DS.combineFirst a.vars b.vars n (by intro c; simp [DS.combineFirst, cget]),
    cget_combineFirst]

theorem Dataset.mem_of_get {d : Dataset} {n : String} {p : Pt} {t : Tok} (h : d.get n p = some t) :
    ∃ v, (n, v) ∈ d.vars ∧ (p, t) ∈ v.cells := by
  unfold Dataset.get Dataset.cellsOf at h
  cases hv : alookup d.vars n with
  | none => simp [hv, cget] at h
  | some v => exact ⟨v, alookup_mem _ _ _ hv, cget_mem _ _ _ (by simpa [hv] using h)⟩

theorem Dataset.conflicts_iff (a b : Dataset) :
    a.conflicts b = true ↔ ∃ n p x y, a.get n p = some x ∧ b.get n p = some y ∧ x ≠ y := by
  unfold Dataset.conflicts
  rw [List.any_eq_true]
  constructor
  · rintro ⟨e, _, h⟩
    obtain ⟨p, x, y, h1, h2, h3⟩ := (conflict_iff _ _).mp h
    exact ⟨e.1, p, x, y, h1, h2, h3⟩
  · rintro ⟨n, p, x, y, h1, h2, h3⟩
    obtain ⟨v, hv, _⟩ := Dataset.mem_of_get h1
    exact ⟨(n, v), hv, (conflict_iff _ _).mpr ⟨p, x, y, h1, h2, h3⟩⟩

theorem mem_sortedUnion (xs ys : List Coord) (y : Coord) : y ∈ sortedUnion xs ys ↔ y ∈ xs ∨ y ∈ ys := by
  unfold sortedUnion
  rw [InsertSorted.mem_foldl_ins insertSorted (fun _ => rfl) (fun _ _ _ => rfl)]
  simp

theorem alookup_unionCoords (a b : List (String × List Coord)) (d : String) (c : Coord) :
    c ∈ (alookup (unionCoords a b) d).getD [] ↔ c ∈ (alookup a d).getD [] ∨ c ∈ (alookup b d).getD [] := by
  unfold unionCoords
  rw [alookup_append,
    alookup_map_val (fun k (cs : List Coord) => sortedUnion cs ((alookup b k).getD [])),
    alookup_map_val (fun _ (cs : List Coord) => sortedUnion cs []),
    alookup_filter_key (fun k => (alookup a k).isNone)]
  cases ha : alookup a d with
  | none => cases hb : alookup b d <;> simp [mem_sortedUnion]
  | some v => simp [mem_sortedUnion]

theorem Dataset.coordsOf_combineFirst (a b : Dataset) (d : String) (c : Coord) :
    c ∈ (a.combineFirst b).coordsOf d ↔ c ∈ a.coordsOf d ∨ c ∈ b.coordsOf d := by
  unfold Dataset.coordsOf Dataset.combineFirst
  exact alookup_unionCoords a.coords b.coords d c

theorem hasLabels_iff (d : Dataset) (loc : Pt) : d.hasLabels loc = true ↔ ∀ s ∈ loc, s.2 ∈ d.coordsOf s.1 := by
  simp only [Dataset.hasLabels, List.all_eq_true, Dataset.coordsOf]
  refine forall₂_congr fun s _ => ?_
  cases alookup d.coords s.1 <;> simp

theorem unionCoords_keys (a b : List (String × List Coord)) :
    (unionCoords a b).map (·.1) = a.map (·.1) ++ (b.map (·.1)).filter fun k => (alookup a k).isNone := by
  simp [unionCoords, List.filter_map, Function.comp_def]

/-! ### `expand_dims`: one more key in every point, one more dimension in the coordinates -/

theorem eraseP_insertKey (k : String) (c : Coord) (p : Pt) (h : alookup p k = none) :
    (insertKey k c p).eraseP (fun e => e.1 == k) = p := by
  induction p with
  | nil => simp [insertKey]
  | cons e r ih =>
    obtain ⟨k', c'⟩ := e
    simp only [alookup] at h
    split at h
    · cases h
    · rename_i hk
      simp only [insertKey]
      split
      · simp
      · simp [hk, ih h]

theorem alookup_insertKey (k : String) (c : Coord) (p : Pt) (h : alookup p k = none) :
    alookup (insertKey k c p) k = some c := by
  induction p with
  | nil => simp [insertKey, alookup]
  | cons e r ih =>
    obtain ⟨k', c'⟩ := e
    simp only [alookup] at h
    split at h
    · cases h
    · rename_i hk
      simp only [insertKey]
      split
      · simp [alookup]
      · simp [alookup, hk, ih h]

theorem cget_map_insertKey (k : String) (c : Coord) (cells : Cells) (p : Pt)
    (hc : ∀ e ∈ cells, alookup e.1 k = none) (hp : alookup p k = none) :
    cget (cells.map fun e => (insertKey k c e.1, e.2)) (insertKey k c p) = cget cells p := by
  induction cells with
  | nil => rfl
  | cons e r ih =>
    obtain ⟨q, t⟩ := e
    have hq : alookup q k = none := hc (q, t) (List.mem_cons_self ..)
    have ih' := ih (fun e he => hc e (List.mem_cons_of_mem _ he))
    simp only [List.map_cons, cget]
    by_cases h : q = p
    · subst h; simp
    · have : ¬ insertKey k c q = insertKey k c p := by
        intro heq
        apply h
        have := congrArg (List.eraseP fun e => e.1 == k) heq
        rwa [eraseP_insertKey k c q hq, eraseP_insertKey k c p hp] at this
      simp [h, this, ih']

theorem alookup_insertCoordDim_self (k : String) (cs : List Coord) (l : List (String × List Coord))
    (h : alookup l k = none) : alookup (insertCoordDim k cs l) k = some cs := by
  induction l with
  | nil => simp [insertCoordDim, alookup]
  | cons e r ih =>
    obtain ⟨k', c'⟩ := e
    simp only [alookup] at h
    split at h
    · cases h
    · rename_i hk
      simp only [insertCoordDim]
      split
      · simp [alookup]
      · simp [alookup, hk, ih h]

theorem alookup_insertCoordDim_other (k dim : String) (cs : List Coord) (l : List (String × List Coord))
    (h : dim ≠ k) : alookup (insertCoordDim k cs l) dim = alookup l dim := by
  induction l with
  | nil => simp [insertCoordDim, alookup, h.symm]
  | cons e r ih =>
    obtain ⟨k', c'⟩ := e
    simp only [insertCoordDim]
    split
    · simp [alookup, h.symm]
    · simp only [alookup, ih]

theorem Dataset.get_empty (n : String) (p : Pt) : ({} : Dataset).get n p = none := rfl
theorem Dataset.coordsOf_empty (d : String) : ({} : Dataset).coordsOf d = [] := rfl

end DS
