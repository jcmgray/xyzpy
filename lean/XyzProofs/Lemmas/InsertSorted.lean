/-!
# Insertion into a sorted list without repeats: what the result contains

`Core.Sweep.insertSorted` (over `Nat`, the case coordinates of `combo_runner`) and `DS.insertSorted` (over `Int`, the outer
join of dataset coordinates) are the same recursion written down twice in the model.  What is proved here holds of any
`ins` with that recursion's two equations; each model function satisfies them by `rfl`.  (That the result is sorted is proved
where it is needed, for `Nat`: `Core.sorted_insertSorted`.)
-/
namespace InsertSorted
variable {α : Type} [LT α] [DecidableLT α] [DecidableEq α]

theorem mem_ins (ins : α → List α → List α) (hnil : ∀ x, ins x [] = [x])
    (hcons : ∀ x y ys, ins x (y :: ys) = if x < y then x :: y :: ys else if x = y then y :: ys else y :: ins x ys)
    (x y : α) (l : List α) : y ∈ ins x l ↔ y = x ∨ y ∈ l := by
  induction l with
  | nil => simp [hnil]
  | cons z zs ih =>
    rw [hcons]
    by_cases h1 : x < z
    · simp [h1]
    · by_cases h2 : x = z
      · subst h2
        simp [h1]
      · simp only [h1, h2, if_false, List.mem_cons, ih]
        constructor <;> rintro (h | h | h) <;> simp [h]

theorem mem_foldl_ins (ins : α → List α → List α) (hnil : ∀ x, ins x [] = [x])
    (hcons : ∀ x y ys, ins x (y :: ys) = if x < y then x :: y :: ys else if x = y then y :: ys else y :: ins x ys)
    (l acc : List α) (y : α) : y ∈ l.foldl (fun acc x => ins x acc) acc ↔ y ∈ acc ∨ y ∈ l := by
  induction l generalizing acc with
  | nil => simp
  | cons x xs ih =>
    rw [List.foldl_cons, ih, mem_ins ins hnil hcons, List.mem_cons]
    constructor
    · rintro ((h | h) | h) <;> simp [h]
    · rintro (h | h | h) <;> simp [h]

end InsertSorted
