import XyzProofs.Lemmas.Fmt
/-!
`sci` never gives up on a positive number: the digit-count estimate of `⌊log10 q⌋` is right, so the self-check of
`sci` always passes.  This turns the C20 theorems (stated for `format i = some o`) into statements about every input
with `err > 0`.
-/
namespace Fmt

theorem ndigits_pos (n : ℕ) : 0 < ndigits n := Nat.length_toDigits_pos

theorem ndigits_upper (n : ℕ) : n < 10 ^ ndigits n :=
  (Nat.length_toDigits_le_iff (b := 10) (by norm_num) (ndigits_pos n)).mp (Nat.le_refl _)

theorem ndigits_lower (n : ℕ) (hn : 0 < n) : 10 ^ (ndigits n - 1) ≤ n := by
  by_cases h1 : ndigits n = 1
  · rw [h1]; simp; omega
  · have hp := ndigits_pos n
    have hk : 0 < ndigits n - 1 := by omega
    by_contra hc
    have hlt : n < 10 ^ (ndigits n - 1) := by omega
    have h2 : (Nat.toDigits 10 n).length ≤ ndigits n - 1 :=
      (Nat.length_toDigits_le_iff (b := 10) (n := n) (by norm_num) hk).mpr hlt
    have h3 : (Nat.toDigits 10 n).length = ndigits n := rfl
    omega

theorem ndigits_zpow {n : ℕ} (hn : 0 < n) :
    (10 : ℚ) ^ ((ndigits n : ℤ) - 1) ≤ n ∧ (n : ℚ) < (10 : ℚ) ^ (ndigits n : ℤ) := by
  constructor
  · have hp := ndigits_pos n
    rw [show (ndigits n : ℤ) - 1 = ((ndigits n - 1 : ℕ) : ℤ) by omega, zpow_natCast]
    exact_mod_cast ndigits_lower n hn
  · rw [zpow_natCast]
    exact_mod_cast ndigits_upper n

/-- the digit-count estimate brackets `q` within two decades -/
theorem estimate_bounds {q : ℚ} (hq : 0 < q) :
    (10 : ℚ) ^ (((ndigits q.num.natAbs : ℤ) - (ndigits q.den : ℤ)) - 1) ≤ q ∧
    q < (10 : ℚ) ^ (((ndigits q.num.natAbs : ℤ) - (ndigits q.den : ℤ)) + 1) := by
  have hnum : 0 < q.num := Rat.num_pos.mpr hq
  obtain ⟨la, ua⟩ := ndigits_zpow (Int.natAbs_pos.mpr hnum.ne')
  obtain ⟨lb, ub⟩ := ndigits_zpow q.den_pos
  have hb : (0 : ℚ) < (q.den : ℚ) := by exact_mod_cast q.den_pos
  have hq' : (q.num.natAbs : ℚ) / (q.den : ℚ) = q := by
    rw [← Int.cast_natCast, Int.natAbs_of_nonneg hnum.le, Rat.num_div_den]
  have ten : (10 : ℚ) ≠ 0 := by norm_num
  constructor
  · -- 10^(da - db - 1) = 10^(da - 1) / 10^db ≤ a / b
    rw [sub_right_comm, zpow_sub₀ ten]
    exact (div_le_div₀ (Nat.cast_nonneg _) la hb ub.le).trans_eq hq'
  · -- a / b < 10^da / 10^(db - 1) = 10^(da - db + 1)
    rw [sub_add, zpow_sub₀ ten]
    exact hq'.symm.trans_lt (div_lt_div₀ ua lb (by positivity) (by positivity))

/-- `floorLog10 q` is `⌊log10 q⌋` (the printed exponent is this, or one more after a rounding carry: `sciRaw`) -/
theorem c20_floorLog10 (q : ℚ) (hq : 0 < q) :
    (10 : ℚ) ^ (floorLog10 q) ≤ q ∧ q < (10 : ℚ) ^ (floorLog10 q + 1) := by
  obtain ⟨hl, hu⟩ := estimate_bounds hq
  unfold floorLog10
  simp only
  split_ifs with h
  · rw [pow10_eq] at h
    exact ⟨h, hu⟩
  · rw [pow10_eq, not_le] at h
    refine ⟨hl, ?_⟩
    rwa [sub_add_cancel]

theorem isSci_sciRaw {q : ℚ} (hq : 0 < q) (p : ℕ) : IsSci q p (sciRaw q p).1 (sciRaw q p).2 := by
  obtain ⟨hlo, hhi⟩ := c20_floorLog10 q hq
  have hu : (0 : ℚ) < (10 : ℚ) ^ (floorLog10 q - (p : ℤ)) := by positivity
  have herr := abs_sub_round_mul q hu
  -- in units of `u = 10^(e−p)`, `q` lies between `10^p` and `10^(p+1)`, and so does its rounding, the upper end included
  have hx : ((10 ^ p : ℤ) : ℚ) ≤ q / (10 : ℚ) ^ (floorLog10 q - (p : ℤ)) ∧
      q / (10 : ℚ) ^ (floorLog10 q - (p : ℤ)) < ((10 ^ (p + 1) : ℤ) : ℚ) := by
    rw [le_div_iff₀ hu, div_lt_iff₀ hu]
    push_cast
    rw [← zpow_natCast, ← zpow_natCast, ← ten_zpow_split, ← ten_zpow_split]
    have e1 : (p : ℤ) + (floorLog10 q - (p : ℤ)) = floorLog10 q := by ring
    have e2 : ((p + 1 : ℕ) : ℤ) + (floorLog10 q - (p : ℤ)) = floorLog10 q + 1 := by push_cast; ring
    rw [e1, e2]
    exact ⟨hlo, hhi⟩
  obtain ⟨hmlo, hmhi⟩ := round_bounds hx.1 hx.2
  unfold sciRaw
  simp only [pow10_eq]
  split_ifs with hcarry
  · -- the mantissa rounded up to `10^(p+1)`: it is carried into the exponent, `10^p` units ten times as large
    have hu' : (10 : ℚ) ^ (floorLog10 q + 1 - (p : ℤ)) = 10 * (10 : ℚ) ^ (floorLog10 q - (p : ℤ)) := by
      rw [add_sub_right_comm, add_comm, ten_zpow_split, zpow_one]
    refine ⟨by push_cast; exact le_refl _, by push_cast; exact pow_lt_pow_right₀ (by norm_num) (Nat.lt_succ_self p), ?_⟩
    rw [hcarry] at herr
    push_cast at herr ⊢
    rw [hu', ← mul_assoc, ← pow_succ]
    exact herr.trans (by linarith)
  · refine ⟨by exact_mod_cast hmlo, ?_, herr⟩
    exact_mod_cast lt_of_le_of_ne hmhi (by exact_mod_cast hcarry)

/-- `f"{q:.{p}e}"` is defined for every positive `q` (the model's self-check never fails): the digit-count estimate
of `⌊log10 q⌋` is exact after one correction -/
theorem c20_sci_total (q : ℚ) (hq : 0 < q) (p : ℕ) : ∃ m e, sci q p = some (m, e) := by
  refine ⟨(sciRaw q p).1, (sciRaw q p).2, ?_⟩
  unfold sci
  simp [(sciOk_iff q p _ _).mpr (isSci_sciRaw hq p)]

end Fmt
