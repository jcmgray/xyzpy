import XyzModel.Gen.DefaultCore
/-!
# Python dicts as association lists (`Gen.Py.dict*`, Gen/DefaultCore.lean)

What `dictGet` reads after `dictSet`, `dictErase`, `dictUpdate`, `dictOfList`, `dictMapVal`; the keys after an update;
that building a dict from pairs with distinct keys changes nothing; and a few lemmas about `List.lookup`, which is what
`dictGet` and the models' other association lists are.

Names: `get_<op>` says what `dictGet` reads after `<op>` (`get_set`, `get_erase`, `get_update_mem`); `dict<Op>_…` is an
equation for the result of the operation itself (`dictSet_of_notin`, `dictUpdate_eq`, `dictOfList_of_nodup`); `keys_<op>` is
the key list after `<op>`; `lookup_…` is the same fact about `List.lookup`, with all arguments explicit.
-/
namespace Gen.Py
open Gen List
theorem fst_zip_sublist {γ δ : Type} (l1 : List γ) (l2 : List δ) : (l1.zip l2).map Prod.fst <+ l1 := by
  induction l1 generalizing l2 with
  | nil => simp
  | cons a t ih =>
    cases l2 with
    | nil => simp
    | cons b u => simp only [List.zip_cons_cons, List.map_cons]; exact (ih u).cons_cons a

theorem zip_keys_nodup {γ δ : Type} (names : List γ) (vals : List δ) (hnd : names.Nodup) :
    ((names.zip vals).map Prod.fst).Nodup := hnd.sublist (fst_zip_sublist names vals)

theorem mem_zip_getElem {γ δ : Type} (names : List γ) (vals : List δ) (j : Nat) (h1 : j < names.length)
    (h2 : j < vals.length) : (names[j], vals[j]) ∈ names.zip vals :=
  List.mem_of_getElem? ((List.getElem?_zip_eq_some (z := (names[j], vals[j]))).mpr
    ⟨List.getElem?_eq_getElem h1, List.getElem?_eq_getElem h2⟩)

variable {κ ν : Type} [BEq κ]

theorem dictGet_cons (e : κ × ν) (t : List (κ × ν)) (k : κ) :
    Py.dictGet (e :: t) k = if e.1 == k then some e.2 else Py.dictGet t k := by
  simp only [Py.dictGet, List.find?_cons]
  cases e.1 == k <;> rfl

theorem update_nil (d : List (κ × ν)) : Py.dictUpdate d [] = d := rfl

variable [LawfulBEq κ]

/-! ### association lists read by `List.lookup` -/

theorem lookup_filter_key (P : κ → Bool) (l : List (κ × ν)) (k : κ) :
    (l.filter fun e => P e.1).lookup k = if P k then l.lookup k else none := by
  induction l with
  | nil => simp
  | cons e r ih =>
    obtain ⟨k', x⟩ := e
    by_cases hk : k = k'
    · subst hk; by_cases hP : P k <;> simp [hP, ih]
    · have hk' : (k == k') = false := by simpa using hk
      by_cases hP : P k' <;> simp [List.lookup_cons, hP, hk', ih]

theorem lookup_map_val {γ : Type} (g : κ → ν → γ) (l : List (κ × ν)) (k : κ) :
    (l.map fun e => (e.1, g e.1 e.2)).lookup k = (l.lookup k).map (g k) := by
  induction l with
  | nil => simp
  | cons e r ih =>
    obtain ⟨k', x⟩ := e
    by_cases hk : k = k'
    · subst hk; simp
    · have hk' : (k == k') = false := by simpa using hk
      simp [List.lookup_cons, hk', ih]

theorem mem_of_lookup (l : List (κ × ν)) (k : κ) (x : ν) (h : l.lookup k = some x) : (k, x) ∈ l := by
  obtain ⟨l₁, l₂, rfl, _⟩ := List.lookup_eq_some_iff.mp h
  simp

theorem lookup_isSome_of_mem (l : List (κ × ν)) (k : κ) (x : ν) (h : (k, x) ∈ l) : (l.lookup k).isSome = true :=
  List.lookup_isSome_iff.mpr ⟨(k, x), h, by simp⟩

theorem lookup_of_mem_nodup (l : List (κ × ν)) (k : κ) (x : ν) (hn : (l.map (·.1)).Nodup) (h : (k, x) ∈ l) :
    l.lookup k = some x := by
  induction l with
  | nil => simp at h
  | cons e t ih =>
    simp only [List.map_cons, List.nodup_cons] at hn
    rcases List.mem_cons.mp h with rfl | ht
    · simp
    · have hne : (k == e.1) = false :=
        beq_eq_false_iff_ne.mpr fun he => hn.1 (he ▸ List.mem_map.mpr ⟨(k, x), ht, rfl⟩)
      rw [List.lookup_cons, hne]
      exact ih hn.2 ht

/-! ### `dictGet` -/

/-- `dictGet` is core's `List.lookup` (so are the other association lists of the models: `DS.alookup_eq_lookup`) -/
theorem dictGet_eq_lookup (s : List (κ × ν)) (k : κ) : Py.dictGet s k = s.lookup k := by
  induction s with
  | nil => rfl
  | cons e t ih =>
    rw [dictGet_cons, ih, List.lookup_cons]
    by_cases h : e.1 = k
    · subst h; simp
    · simp [h, beq_eq_false_iff_ne.mpr (Ne.symm h)]

theorem mem_of_get {s : List (κ × ν)} {k : κ} {v : ν} (h : Py.dictGet s k = some v) : (k, v) ∈ s :=
  mem_of_lookup s k v (dictGet_eq_lookup s k ▸ h)

theorem get_of_mem_nodup {s : List (κ × ν)} {k : κ} {v : ν} (hn : (s.map Prod.fst).Nodup) (h : (k, v) ∈ s) :
    Py.dictGet s k = some v :=
  (dictGet_eq_lookup s k).trans (lookup_of_mem_nodup s k v hn h)

theorem get_erase (s : List (κ × ν)) (k k' : κ) :
    Py.dictGet (Py.dictErase s k) k' = if k' == k then none else Py.dictGet s k' := by
  rw [dictGet_eq_lookup, Py.dictErase, lookup_filter_key (fun x => !(x == k)), dictGet_eq_lookup]
  cases k' == k <;> rfl

theorem get_eq_none_iff (s : List (κ × ν)) (k : κ) : Py.dictGet s k = none ↔ k ∉ s.map Prod.fst := by
  rw [dictGet_eq_lookup, List.lookup_eq_none_iff]
  constructor
  · intro h hm
    obtain ⟨p, hp, rfl⟩ := List.mem_map.mp hm
    simpa using h p hp
  · intro h p hp
    simpa using fun e : k = p.1 => h (e ▸ List.mem_map_of_mem hp)

theorem get_of_notin (s : List (κ × ν)) (k : κ) (h : k ∉ s.map Prod.fst) : Py.dictGet s k = none :=
  (get_eq_none_iff s k).mpr h

theorem not_any_iff (s : List (κ × ν)) (k : κ) : s.any (fun e => e.1 == k) = false ↔ k ∉ s.map Prod.fst := by
  induction s with
  | nil => simp
  | cons e t ih =>
    rw [List.any_cons, Bool.or_eq_false_iff, ih, List.map_cons, List.mem_cons, not_or, beq_eq_false_iff_ne]
    exact and_congr_left' ne_comm

theorem get_map_replace (s : List (κ × ν)) (k k' : κ) (v : ν) :
    Py.dictGet (s.map fun e => if e.1 == k then (e.1, v) else e) k'
      = if k' == k then (if s.any (fun e => e.1 == k) then some v else none) else Py.dictGet s k' := by
  -- the replaced entry keeps its key: the map changes values only
  have hmap : (s.map fun e => if e.1 == k then (e.1, v) else e) = s.map fun e => (e.1, if e.1 == k then v else e.2) :=
    List.map_congr_left fun e _ => by split <;> rfl
  rw [hmap, dictGet_eq_lookup, lookup_map_val (fun a x => if a == k then v else x), ← dictGet_eq_lookup]
  by_cases h : k' = k
  · subst h
    cases hg : Py.dictGet s k' with
    | none => simp [(not_any_iff s k').mpr ((get_eq_none_iff s k').mp hg)]
    | some x =>
      have : s.any (fun e => e.1 == k') = true := List.any_eq_true.mpr ⟨_, mem_of_get hg, by simp⟩
      simp [this]
  · simp [h]

theorem get_append_one (s : List (κ × ν)) (k k' : κ) (v : ν) :
    Py.dictGet (s ++ [(k, v)]) k' = (Py.dictGet s k').or (if k == k' then some v else none) := by
  rw [dictGet_eq_lookup, List.lookup_append, dictGet_eq_lookup, List.lookup_cons, List.lookup_nil, BEq.comm (a := k)]
  cases k' == k <;> rfl

/-- a key moved to the end with a new value (`FS.set`, `Crop.insert`) -/
theorem get_erase_append (s : List (κ × ν)) (k k' : κ) (v : ν) :
    Py.dictGet (Py.dictErase s k ++ [(k, v)]) k' = if k' == k then some v else Py.dictGet s k' := by
  rw [get_append_one, get_erase]
  by_cases h : k' = k
  · subst h; simp
  · simp [h, beq_eq_false_iff_ne.mpr (Ne.symm h)]

theorem get_set (s : List (κ × ν)) (k k' : κ) (v : ν) :
    Py.dictGet (Py.dictSet s k v) k' = if k' == k then some v else Py.dictGet s k' := by
  unfold Py.dictSet
  by_cases h : s.any (fun e => e.1 == k) = true
  · rw [if_pos h, get_map_replace, h]; simp
  · have h' : s.any (fun e => e.1 == k) = false := Bool.eq_false_iff.mpr h
    rw [if_neg h, get_append_one]
    by_cases h2 : k' = k
    · subst h2
      simp [get_of_notin s k' ((not_any_iff s k').mp h')]
    · simp [h2, beq_eq_false_iff_ne.mpr (Ne.symm h2)]

theorem get_mapVal {γ : Type} (g : ν → γ) (s : List (κ × ν)) (k : κ) :
    Py.dictGet (Py.dictMapVal g s) k = (Py.dictGet s k).map g := by
  rw [dictGet_eq_lookup, dictGet_eq_lookup]
  exact lookup_map_val (fun _ => g) s k

/-- `dict(zip(keys, map(f, keys)))`, keys repeated or not: every key has `f` of itself -/
theorem get_ofList_fn (f : κ → ν) (ks : List κ) (d : List (κ × ν)) (k : κ) :
    Py.dictGet ((ks.map fun a => (a, f a)).foldl (fun d e => Py.dictSet d e.1 e.2) d) k
      = if k ∈ ks then some (f k) else Py.dictGet d k := by
  induction ks generalizing d with
  | nil => simp
  | cons a t ih =>
    rw [List.map_cons, List.foldl_cons, ih, get_set]
    by_cases h1 : k ∈ t
    · simp [h1]
    · by_cases h2 : k = a <;> simp [h1, h2]

theorem dictSet_of_notin (d : List (κ × ν)) (k : κ) (v : ν) (h : k ∉ d.map Prod.fst) : Py.dictSet d k v = d ++ [(k, v)] := by
  simp [Py.dictSet, (not_any_iff d k).mpr h]

theorem dictUpdate_of_nodup (d l : List (κ × ν)) (h : ((d ++ l).map Prod.fst).Nodup) : Py.dictUpdate d l = d ++ l := by
  unfold Py.dictUpdate
  induction l generalizing d with
  | nil => simp
  | cons kv rest ih =>
    have hk : kv.1 ∉ d.map Prod.fst := by
      rw [List.map_append, List.nodup_append] at h
      exact fun hm => h.2.2 _ hm _ (by simp) rfl
    rw [List.foldl_cons, dictSet_of_notin d _ _ hk, ih _ (by simpa using h)]
    simp

theorem dictOfList_of_nodup (l : List (κ × ν)) (h : (l.map Prod.fst).Nodup) : Py.dictOfList l = l := by
  have := dictUpdate_of_nodup [] l (by simpa using h)
  rwa [List.nil_append] at this

theorem get_update_of_none (e d : List (κ × ν)) (k : κ) (h : Py.dictGet e k = none) :
    Py.dictGet (Py.dictUpdate d e) k = Py.dictGet d k := by
  unfold Py.dictUpdate
  induction e generalizing d with
  | nil => rfl
  | cons x t ih =>
    rw [dictGet_cons] at h
    by_cases hx : x.1 = k
    · simp [hx] at h
    · rw [if_neg (by simpa using hx)] at h
      rw [List.foldl_cons, ih _ h, get_set, if_neg (by simpa using fun hk : k = x.1 => hx hk.symm)]

theorem get_update_notin (e d : List (κ × ν)) (k : κ) (h : k ∉ e.map Prod.fst) :
    Py.dictGet (Py.dictUpdate d e) k = Py.dictGet d k :=
  get_update_of_none e d k (get_of_notin e k h)

/-- **the later dict wins**: a key of `e` (keys distinct, as in a dict) has `e`'s value after `d.update(e)` / `{**d, **e}` -/
theorem get_update_mem (e d : List (κ × ν)) (k : κ) (v : ν) (hnd : (e.map Prod.fst).Nodup) (h : (k, v) ∈ e) :
    Py.dictGet (Py.dictUpdate d e) k = some v := by
  unfold Py.dictUpdate
  induction e generalizing d with
  | nil => cases h
  | cons x t ih =>
    simp only [List.map_cons, List.nodup_cons] at hnd
    rw [List.foldl_cons]
    rcases List.mem_cons.mp h with h | h
    · subst h
      have := get_update_notin t (Py.dictSet d k v) k hnd.1
      unfold Py.dictUpdate at this
      rw [this, get_set]; simp
    · exact ih _ hnd.2 h

/-- **`d.update(e)` in closed form** (`e` a dict: keys distinct): the keys of `d` keep their place and take `e`'s value
where `e` has one; the keys that are new follow in `e`'s order -/
theorem dictUpdate_eq (e : List (κ × ν)) (he : (e.map Prod.fst).Nodup) (d : List (κ × ν)) :
    Py.dictUpdate d e = d.map (fun kv => (kv.1, (Py.dictGet e kv.1).getD kv.2)) ++
      e.filter (fun kv => (Py.dictGet d kv.1).isNone) := by
  unfold Py.dictUpdate
  induction e generalizing d with
  | nil => simp [Py.dictGet]
  | cons x t ih =>
    obtain ⟨k, v⟩ := x
    rw [List.map_cons, List.nodup_cons] at he
    have hkt : Py.dictGet t k = none := get_of_notin t k he.1
    rw [List.foldl_cons, ih he.2]
    -- the keys of `t` are not `k`: whether they are new is not changed by setting `k`
    have hf : (t.filter fun kv => (Py.dictGet (Py.dictSet d k v) kv.1).isNone) = t.filter fun kv => (Py.dictGet d kv.1).isNone := by
      apply List.filter_congr
      intro kv hkv
      have : kv.1 ≠ k := fun h => he.1 (h ▸ List.mem_map.mpr ⟨kv, hkv, rfl⟩)
      rw [get_set, if_neg (by simpa using this)]
    rw [hf, List.filter_cons]
    by_cases hd : k ∈ d.map Prod.fst
    · -- `k` is there: its value is replaced in place
      have hany : d.any (fun e => e.1 == k) = true := by
        rw [← Bool.not_eq_false, not_any_iff]; exact not_not_intro hd
      have hsome : (Py.dictGet d k).isNone = false := by
        rw [Bool.eq_false_iff, Ne, Option.isNone_iff_eq_none, get_eq_none_iff]; exact not_not_intro hd
      rw [Py.dictSet, if_pos hany, hsome, List.map_map]
      congr 1
      apply List.map_congr_left
      intro kv _
      by_cases h : kv.1 = k
      · simp [dictGet_cons, h, hkt]
      · simp [dictGet_cons, h, Ne.symm h]
    · -- `k` is new: it is appended
      have hnone : (Py.dictGet d k).isNone = true := by rw [get_of_notin d k hd]; rfl
      rw [dictSet_of_notin d k v hd, hnone, List.map_append, List.append_assoc]
      congr 1
      · apply List.map_congr_left
        intro kv hkv
        have : k ≠ kv.1 := fun h => hd (h ▸ List.mem_map.mpr ⟨kv, hkv, rfl⟩)
        simp [dictGet_cons, this]
      · simp [hkt]

theorem keys_set (d : List (κ × ν)) (k : κ) (v : ν) :
    (Py.dictSet d k v).map Prod.fst = if k ∈ d.map Prod.fst then d.map Prod.fst else d.map Prod.fst ++ [k] := by
  by_cases h : k ∈ d.map Prod.fst
  · have hany : d.any (fun e => e.1 == k) = true := by
      rw [← Bool.not_eq_false, not_any_iff]; exact not_not_intro h
    rw [Py.dictSet, if_pos hany, if_pos h, List.map_map]
    apply List.map_congr_left
    intro x _
    by_cases hx : x.1 = k <;> simp [hx]
  · rw [dictSet_of_notin d k v h, if_neg h, List.map_append]; rfl

/-- **key order of `{**d, **e}`**: the keys of `d` in their order, then the keys of `e` that are new, in `e`'s order -/
theorem keys_update (d e : List (κ × ν)) :
    (Py.dictUpdate d e).map Prod.fst = e.foldl (fun ks x => if x.1 ∈ ks then ks else ks ++ [x.1]) (d.map Prod.fst) := by
  unfold Py.dictUpdate
  induction e generalizing d with
  | nil => rfl
  | cons x t ih => rw [List.foldl_cons, List.foldl_cons, ih, keys_set]

theorem keys_update_prefix (d e : List (κ × ν)) : d.map Prod.fst <+: (Py.dictUpdate d e).map Prod.fst := by
  rw [keys_update]
  generalize d.map Prod.fst = ks
  induction e generalizing ks with
  | nil => exact List.prefix_refl _
  | cons x t ih =>
    rw [List.foldl_cons]
    by_cases h : x.1 ∈ ks
    · rw [if_pos h]; exact ih ks
    · rw [if_neg h]; exact (List.prefix_append ks [x.1]).trans (ih _)

theorem get_eraseAll (ks : List κ) (row : List (κ × ν)) (k : κ) :
    Py.dictGet (ks.foldl Py.dictErase row) k = if k ∈ ks then none else Py.dictGet row k := by
  induction ks generalizing row with
  | nil => simp
  | cons a t ih =>
    rw [List.foldl_cons, ih, get_erase]
    by_cases h1 : k ∈ t
    · simp [h1]
    · by_cases h2 : k = a <;> simp [h1, h2]

theorem get_ofList_notin (l : List (κ × ν)) (k : κ) (h : k ∉ l.map Prod.fst) : Py.dictGet (Py.dictOfList l) k = none := by
  have : Py.dictOfList l = Py.dictUpdate [] l := rfl
  rw [this, get_update_notin l [] k h]; rfl

theorem get_ofList_zip (names : List κ) (vals : List ν) (hnd : names.Nodup) (j : Nat) (h1 : j < names.length)
    (h2 : j < vals.length) : Py.dictGet (Py.dictOfList (names.zip vals)) names[j] = some vals[j] :=
  get_update_mem _ [] _ _ (zip_keys_nodup names vals hnd) (mem_zip_getElem names vals j h1 h2)

theorem get_update_zip (d : List (κ × ν)) (names : List κ) (vals : List ν) (hnd : names.Nodup) (j : Nat)
    (h1 : j < names.length) (h2 : j < vals.length) :
    Py.dictGet (Py.dictUpdate d (Py.dictOfList (names.zip vals))) names[j] = some vals[j] := by
  rw [dictOfList_of_nodup _ (zip_keys_nodup names vals hnd)]
  exact get_update_mem _ _ _ _ (zip_keys_nodup names vals hnd) (mem_zip_getElem names vals j h1 h2)

end Gen.Py
