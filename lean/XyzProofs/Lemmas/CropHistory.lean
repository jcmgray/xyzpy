import XyzProofs.Lemmas.Crop
import XyzProofs.Lemmas.Core
/-! What stands between a sow and a reap, in the model's terms: the batch files of a sow and the order they are sorted back
in, histories of grow / reload / query operations and what they leave (`growMany_spec`, `history_spec`), the stream a
partial reap should see, and how linear results sit in the nested tuple.  The property theorems built on these are in
Props/C04, C08, C09, C10. -/
namespace Crop
open Core List

variable {β : Type}

/-- the batch files a sow with configuration `c` writes for the stored sweep -/
abbrev sownBatches (P : Perms) (c : Batch.Cfg) (sw : Sweep) (seed : Nat) : List (List (List Nat)) :=
  Batch.sow c (sowStream P sw seed)

/-- **sorting back undoes the sow order**: the results of the stream the Sower was fed, put back by `reorder` under the
same seed, are the results in enumeration order — for every permutation the shuffle may be -/
theorem reorder_sowStream (P : Perms) (f : List Nat → β) (sw : Sweep) (seed : Nat)
    (hperm : seed = 0 ∨ P seed sw.locs.length ~ List.range sw.locs.length) :
    reorder P seed sw.locs.length ((sowStream P sw seed).map f) = .ok (sw.locs.map f) := by
  unfold reorder sowStream seedStrategy
  by_cases h0 : seed = 0
  · simp [h0, runLinear]
  · have h := hperm.resolve_left h0
    have hlen : (P seed sw.locs.length).length = sw.locs.length := by simpa using h.length_eq
    have := runShuffled_eq f sw.locs _ [] h
    simp only [h0, if_false, runLinear, List.length_map, applyPerm_length, hlen, Nat.lt_irrefl]
    simpa [runShuffled] using this


/-- the operations between sow and reap: growing any ids (in any order, grouping, repetition — `Crop.grow`, `grow()`,
`grow_missing` all reduce to this), re-creating the Crop object from disk, and progress queries -/
inductive HOp where
  | grow (ids : List Nat)
  | reload
  | query

def hstep (f : List Nat → β) (s : St β) : HOp → St β
  | .grow ids =>
    match s.dir with
    | none => s
    | some d => { s with dir := some (growMany f (fun _ => false) d ids).1 }
  | .reload => opNew s none none 0
  | .query => (missingResults (isReady s).1).1

def grownIds : List HOp → List Nat
  | [] => []
  | .grow ids :: rest => ids ++ grownIds rest
  | _ :: rest => grownIds rest

/-- the directory holds the sown batches `bsl` and every result present is the exact image of its batch -/
structure Good (f : List Nat → β) (d : Dir β) (info : Info) (bsl : List (List (List Nat))) : Prop where
  hinfo : d.info = some info
  hb : ∀ j (hj : j < bsl.length), lookup d.batches (j + 1) = some bsl[j]
  hr : ∀ j (hj : j < bsl.length) r, lookup d.results (j + 1) = some r → r = .good (bsl[j].map f)

theorem growMany_spec (f : List Nat → β) (bsl : List (List (List Nat))) (hne : ∀ b ∈ bsl, b ≠ []) (ids : List Nat)
    (d : Dir β) (hb : ∀ j (hj : j < bsl.length), lookup d.batches (j + 1) = some bsl[j])
    (hids : ∀ i ∈ ids, 1 ≤ i ∧ i ≤ bsl.length) :
    (growMany f (fun _ => false) d ids).1.info = d.info ∧ (growMany f (fun _ => false) d ids).1.batches = d.batches ∧
    ∀ k, lookup (growMany f (fun _ => false) d ids).1.results k =
      if k ∈ ids then some (.good ((bsl[k - 1]?.getD []).map f)) else lookup d.results k := by
  induction ids generalizing d with
  | nil => simp [growMany]
  | cons i is ih =>
    obtain ⟨⟨hi1, hi2⟩, hids'⟩ := List.forall_mem_cons.mp hids
    have hj : i - 1 < bsl.length := by omega
    have hbi := hb (i - 1) hj
    rw [show i - 1 + 1 = i by omega] at hbi
    have hgo : growOne f (fun _ => false) d i = .ok { d with results := insert d.results i (.good (bsl[i - 1].map f)) } :=
      (growOne_ok_iff ..).mpr ⟨_, hbi, hne _ (List.getElem_mem hj), by simp, rfl⟩
    obtain ⟨h1, h2, h3⟩ := ih { d with results := insert d.results i (.good (bsl[i - 1].map f)) } hb hids'
    simp only [growMany, hgo]
    refine ⟨h1, h2, fun k => ?_⟩
    by_cases hk : k ∈ is <;> by_cases hki : k = i
    all_goals simp [h3, lookup_insert, hk, hki, hj]

theorem Good.of_spec {f : List Nat → β} {d d' : Dir β} {info : Info} {bsl : List (List (List Nat))} {ids : List Nat}
    (hg : Good f d info bsl) (h1 : d'.info = d.info) (h2 : d'.batches = d.batches)
    (h3 : ∀ k, lookup d'.results k = if k ∈ ids then some (.good ((bsl[k - 1]?.getD []).map f)) else lookup d.results k) :
    Good f d' info bsl := by
  refine ⟨h1 ▸ hg.hinfo, h2 ▸ hg.hb, fun j hj r hr => ?_⟩
  rw [h3] at hr
  split at hr
  · simpa [hj, eq_comm] using hr
  · exact hg.hr j hj r hr

theorem history_spec (f : List Nat → β) (bsl : List (List (List Nat))) (hne : ∀ b ∈ bsl, b ≠ []) (ops : List HOp)
    (s : St β) (d : Dir β) (hd : s.dir = some d)
    (hb : ∀ j (hj : j < bsl.length), lookup d.batches (j + 1) = some bsl[j])
    (hids : ∀ i ∈ grownIds ops, 1 ≤ i ∧ i ≤ bsl.length) :
    ∃ d', (ops.foldl (hstep f) s).dir = some d' ∧ d'.info = d.info ∧ d'.batches = d.batches ∧
      ∀ k, lookup d'.results k =
        if k ∈ grownIds ops then some (.good ((bsl[k - 1]?.getD []).map f)) else lookup d.results k := by
  induction ops generalizing s d with
  | nil => exact ⟨d, hd, rfl, rfl, by simp [grownIds]⟩
  | cons op rest ih =>
    cases op with
    | grow ids =>
      obtain ⟨hids1, hids2⟩ := List.forall_mem_append.mp hids
      obtain ⟨g1, g2, g3⟩ := growMany_spec f bsl hne ids d hb hids1
      obtain ⟨d', e1, e2, e3, e4⟩ := ih (hstep f s (.grow ids)) _ (by simp [hstep, hd]) (g2 ▸ hb) hids2
      refine ⟨d', e1, e2.trans g1, e3.trans g2, fun k => ?_⟩
      by_cases h1 : k ∈ ids <;> by_cases h2 : k ∈ grownIds rest
      all_goals simp [e4, g3, grownIds, h1, h2]
    | reload => exact ih _ d (by simp [hstep, opNew_dir, hd]) hb hids
    | query => exact ih _ d (by simp [hstep, missingResults_dir, isReady_dir, hd]) hb hids

/-- the stream a partial reap should see: per batch, `f` on the batch if finished, else the placeholder per item -/
def partialStream (f : List Nat → β) (ph : β) (fin : Nat → Bool) (bsl : List (List (List Nat))) : List β :=
  ((List.range bsl.length).zip bsl |>.map fun (j, b) => b.map fun x => if fin (j + 1) then f x else ph).flatten

/-- every stream position with the (1-based) id of the batch file it belongs to -/
def tagged (bsl : List (List (List Nat))) : List (List Nat × Nat) :=
  ((List.range bsl.length).zip bsl |>.map fun (j, b) => b.map fun x => (x, j + 1)).flatten

theorem tagged_fst (bsl : List (List (List Nat))) : (tagged bsl).map Prod.fst = bsl.flatten := by
  have : (List.map Prod.fst ∘ fun (p : Nat × List (List Nat)) => p.2.map fun x => (x, p.1 + 1)) = Prod.snd := by
    funext p; simp [Function.comp_def]
  rw [tagged, List.map_flatten, List.map_map, this, List.map_snd_zip (by simp)]

theorem partialStream_eq_tagged (f : List Nat → β) (ph : β) (fin : Nat → Bool) (bsl : List (List (List Nat))) :
    partialStream f ph fin bsl = (tagged bsl).map fun p => if fin p.2 then f p.1 else ph := by
  unfold partialStream tagged
  rw [List.map_flatten, List.map_map]
  congr 1
  apply List.map_congr_left
  intro p _
  simp [Function.comp_def]

/-- linear results read back as a function of the location (locations are pairwise distinct: `parse_combos` rejects
repeated values and the cases are distinct) -/
theorem linear_as_function (locs : List (List Nat)) (r : List β) (hnd : locs.Nodup) (hlen : r.length = locs.length)
    (d : β) : locs.map (fun p => r.getD (locs.idxOf p) d) = r := by
  apply List.ext_getElem
  · simp [hlen]
  · intro i h1 h2
    simp only [List.getElem_map]
    have hi : i < locs.length := by simpa using h1
    rw [hnd.idxOf_getElem i hi]
    simp [List.getD_eq_getElem?_getD, List.getElem?_eq_getElem h2]

theorem nested_of_linear (sw : Sweep) (r : List β) (ph : β) (hnd : sw.locs.Nodup) (hlen : r.length = sw.locs.length)
    (i : Nat) (hi : i < sw.locs.length) (v : β) (hv : r[i]? = some v) (idx : List Nat)
    (hp : pick sw.coords idx = some sw.locs[i]) :
    (processNested sw r ph).get idx = some (.leaf v) := by
  have hfun := linear_as_function sw.locs r hnd hlen ph
  have hrw : processNested sw r ph = processNested sw (sw.locs.map fun p => r.getD (sw.locs.idxOf p) ph) ph := by
    rw [hfun]
  rw [hrw, processNested_get sw _ ph idx _ hp]
  have hmem : sw.locs[i] ∈ sw.locs := List.getElem_mem hi
  simp only [hmem, if_true]
  rw [hnd.idxOf_getElem i hi]
  simp [List.getD_eq_getElem?_getD, hv]

end Crop
