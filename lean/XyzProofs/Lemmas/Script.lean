import XyzModel.Script
import XyzProofs.Lemmas.PyDict
/-! What C16 uses of the model in XyzModel/Script.lean.  The balance argument: the text `str.format` makes is the literal part
of the template (evaluated, Props/C16.lean) interleaved with field texts, and counts add up; a field text is free of brackets
and quotes (`Plain`: numbers, `None`, `True`), or one such text in a pair of parentheses (tuples, ranges), or a given string.
After it: the option record as a Python dict (`lookup` / `setKw` are `Gen.Py.dictGet` / `dictSet`); rendering split into literal
and field text; `closedB`; `missing`; the abstract effect of grow tasks (`growF`, `growMany`, `doneList`, `runArray`, `runSingle`:
definitions the C16 theorems are stated with) and `taskBatch_eq`; the `@[simp]` set that turns comparisons of scheduler and mode
NAMES (the translated body compares strings) into comparisons of constructors; the laws of `Py.bind`.  Here `Py` is `Scr.Py`
(Gen/DefaultScriptOpts.lean, the primitives of the dynamic translation), NOT `Gen.Py` (dicts): hence `Gen.Py.…` in full. -/
namespace Scr
open List

/-- as many opening as closing brackets of each kind, quotes of each kind paired -/
def Bal (s : Str) : Prop :=
  s.count '(' = s.count ')' ∧ s.count '[' = s.count ']' ∧ s.count '{' = s.count '}' ∧
  s.count '\'' % 2 = 0 ∧ s.count '"' % 2 = 0

instance (s : Str) : Decidable (Bal s) := by unfold Bal; infer_instance

/-- the characters `Bal` counts -/
def special : Str := chars! "()[]{}'\""

def Plain (s : Str) : Prop := ∀ c ∈ s, c ∉ special

theorem bal_nil : Bal [] := by decide

/-- `Bal` speaks of counts only: a text whose counts are those of two balanced texts added up is balanced -/
theorem bal_of_count_add {s a b : Str} (h : ∀ c, s.count c = a.count c + b.count c) (ha : Bal a) (hb : Bal b) : Bal s := by
  unfold Bal at *
  simp only [h]
  omega

theorem bal_append {a b : Str} (ha : Bal a) (hb : Bal b) : Bal (a ++ b) :=
  bal_of_count_add (fun _ => List.count_append) ha hb

theorem count_of_plain {s : Str} (h : Plain s) : ∀ c ∈ special, s.count c = 0 :=
  fun c hc => List.count_eq_zero.mpr fun hm => h c hm hc

theorem bal_of_plain {s : Str} (h : Plain s) : Bal s := by
  have hc := count_of_plain h
  simp [special] at hc
  simp [Bal, hc]

theorem plain_nil : Plain [] := fun _ hc => nomatch hc

theorem plain_append {a b : Str} (ha : Plain a) (hb : Plain b) : Plain (a ++ b) :=
  fun c hc => (List.mem_append.mp hc).elim (ha c) (hb c)

theorem plain_cons {c : Char} {s : Str} (hc : c ∉ special) (hs : Plain s) : Plain (c :: s) :=
  List.forall_mem_cons.mpr ⟨hc, hs⟩

theorem plain_replicate_zero (n : Nat) : Plain (List.replicate n '0') := by
  intro c hc
  have := (List.mem_replicate.mp hc).2
  subst this
  decide

theorem bal_wrap {body : Str} (h : Plain body) : Bal ('(' :: body ++ [')']) := by
  have hc := count_of_plain h
  simp [special] at hc
  simp [Bal, hc]

theorem digitChar_plain (d : Nat) : digitChar d ∉ special := by
  unfold digitChar
  split <;> decide

theorem plain_natDigitsAux (fuel n : Nat) (acc : Str) (h : Plain acc) : Plain (natDigitsAux fuel n acc) := by
  induction fuel generalizing n acc with
  | zero => simpa [natDigitsAux] using h
  | succ k ih =>
    unfold natDigitsAux
    split
    · exact plain_cons (digitChar_plain n) h
    · exact ih _ _ (plain_cons (digitChar_plain _) h)

theorem plain_natDigits (n : Nat) : Plain (natDigits n) := plain_natDigitsAux _ _ _ plain_nil

theorem plain_joinSep (sep : Str) (hsep : Plain sep) :
    ∀ l : List Str, (∀ x ∈ l, Plain x) → Plain (joinSep sep l)
  | [], _ => by simpa [joinSep] using plain_nil
  | [a], h => by simpa [joinSep] using h a (by simp)
  | a :: b :: r, h =>
    plain_append (plain_append (h a (by simp)) hsep)
      (plain_joinSep sep hsep (b :: r) (fun x hx => h x (List.mem_cons_of_mem _ hx)))

theorem bal_reprTuple (l : List Nat) : Bal (reprTuple l) := by
  match l with
  | [] => decide
  | [a] =>
    have : reprTuple [a] = '(' :: (natDigits a ++ [',']) ++ [')'] := by simp [reprTuple]
    rw [this]
    exact bal_wrap (plain_append (plain_natDigits a) (plain_cons (by decide) plain_nil))
  | a :: b :: r =>
    apply bal_wrap
    apply plain_joinSep
    · exact plain_cons (by decide) (plain_cons (by decide) plain_nil)
    · intro x hx
      obtain ⟨n, _, rfl⟩ := List.mem_map.mp hx
      exact plain_natDigits n

theorem plain_intDigits (i : Int) : Plain (intDigits i) := by
  unfold intDigits
  split
  · exact plain_cons (by decide) (plain_natDigits _)
  · exact plain_natDigits _

theorem bal_reprRange (a b : Int) : Bal (reprRange a b) := by
  unfold reprRange
  apply bal_append (by decide +kernel)
  apply bal_wrap
  exact plain_append (plain_append (plain_intDigits a) (plain_cons (by decide) (plain_cons (by decide) plain_nil)))
    (plain_intDigits b)

/-- option values whose text is bracket/quote neutral: everything but strings (and float texts), which must be
balanced themselves -/
def ValNeutral : PyVal → Prop
  | .str s => Bal s
  | .flt r => Bal r
  | _ => True

theorem bal_pyStr {v : PyVal} (h : ValNeutral v) : Bal (pyStr v) := by
  cases v with
  | none => decide
  | bool b => cases b <;> decide
  | int i => exact bal_of_plain (plain_intDigits i)
  | str _ | flt _ => exact h
  | tuple l => exact bal_reprTuple l
  | range a b => exact bal_reprRange a b

theorem bal_fmt {v : PyVal} (h : ValNeutral v) (sp : Str) : Bal ((fmt v sp).getD []) := by
  unfold fmt
  split
  · simpa using bal_pyStr h
  · split
    · cases v with
      | none | tuple _ | range _ _ => simpa using bal_nil
      | bool b =>
        simp only [Option.getD_some, padLeft0]
        exact bal_append (bal_of_plain (plain_replicate_zero _)) (by cases b <;> decide)
      | int i =>
        simp only [Option.getD_some]
        split
        · exact bal_of_plain (plain_cons (by decide) (plain_append (plain_replicate_zero _) (plain_natDigits _)))
        · exact bal_of_plain (plain_append (plain_replicate_zero _) (plain_natDigits _))
      | str s =>
        simp only [Option.getD_some, padRight0]
        exact bal_append h (bal_of_plain (plain_replicate_zero _))
      | flt r =>
        simp only [Option.getD_some, padLeft0]
        exact bal_append (bal_of_plain (plain_replicate_zero _)) h
    · simpa using bal_nil

/-! ### the option record is a Python dict (`Gen.Py.dictGet`, `Gen.Py.dictSet`: Lemmas/PyDict.lean) -/

theorem lookup_eq_dictGet (o : Opts) (k : Str) : lookup o k = Gen.Py.dictGet o k := by
  induction o with
  | nil => rfl
  | cons p r ih => simp only [Gen.Py.dictGet_cons, ← ih, lookup, beq_iff_eq]

theorem setKw_eq_dictSet (o : Opts) (k : Str) (v : PyVal) : setKw o k v = Gen.Py.dictSet o k v := by
  unfold setKw Gen.Py.dictSet
  congr 1
  · simp
  · apply List.map_congr_left
    intro p _
    by_cases h : p.1 = k <;> simp [h]

theorem lookup_setKw (o : Opts) (k k' : Str) (v : PyVal) :
    lookup (setKw o k v) k' = if k = k' then some v else lookup o k' := by
  simp only [lookup_eq_dictGet, setKw_eq_dictSet, Gen.Py.get_set, beq_iff_eq, eq_comm (a := k)]

theorem lookup_mem {o : Opts} {n : Str} {v : PyVal} (h : lookup o n = some v) : (n, v) ∈ o :=
  Gen.Py.mem_of_get (lookup_eq_dictGet o n ▸ h)

theorem lookup_of_key {o : Opts} {n : Str} (h : n ∈ o.map (·.1)) : ∃ v, lookup o n = some v := by
  rw [lookup_eq_dictGet]
  exact Option.ne_none_iff_exists'.mp fun hn => (Gen.Py.get_eq_none_iff o n).mp hn h

/-! ### rendering splits into literal text and field text -/

theorem count_renderD (c : Char) (o : Opts) (segs : List Seg) :
    (renderD segs o).count c = (litPart segs).count c + (fldPart o segs).count c := by
  induction segs with
  | nil => simp [renderD, litPart, fldPart]
  | cons s r ih =>
    have hr : renderD (s :: r) o = segText o s ++ renderD r o := by simp [renderD]
    rw [hr, List.count_append, ih]
    cases s with
    | lit t => simp only [segText, litPart, fldPart, List.count_append]; omega
    | fld n sp => simp only [litPart, fldPart, List.count_append]; omega
    | bad => simp [segText, litPart, fldPart]

theorem bal_renderD {o : Opts} {segs : List Seg} (hl : Bal (litPart segs)) (hf : Bal (fldPart o segs)) :
    Bal (renderD segs o) :=
  bal_of_count_add (fun c => count_renderD c o segs) hl hf

theorem bal_fldPart {o : Opts} (h : ∀ p ∈ o, ValNeutral p.2) (segs : List Seg) : Bal (fldPart o segs) := by
  induction segs with
  | nil => exact bal_nil
  | cons s r ih =>
    cases s with
    | lit _ | bad => simpa [fldPart] using ih
    | fld n sp =>
      simp only [fldPart, segText]
      refine bal_append ?_ ih
      split
      · next v hv => exact bal_fmt (h _ (lookup_mem hv)) sp
      · exact bal_nil

/-- every replacement field of a parsed template is supplied in mode `mode`, with a format spec that the value kinds
of that field support (`:02` only on hours / minutes / seconds), and the template is well formed -/
def closedB (mode : Mode) (segs : List Seg) : Bool :=
  segs.all fun
    | .lit _ => true
    | .bad => false
    | .fld n sp => (supplied mode).contains n &&
        (sp == [] || (sp == ['0', '2'] && [chars! "hours", chars! "minutes", chars! "seconds"].contains n))

theorem mem_missing {B : Nat} {done : List Nat} {i : Nat} : i ∈ missing B done ↔ 1 ≤ i ∧ i ≤ B ∧ i ∉ done := by
  simp only [missing, List.mem_filter, List.mem_range'_1, Bool.not_eq_true', List.contains_eq_mem,
    decide_eq_false_iff_not]
  constructor
  · rintro ⟨⟨h1, h2⟩, h3⟩; exact ⟨h1, by omega, h3⟩
  · rintro ⟨h1, h2, h3⟩; exact ⟨⟨h1, by omega⟩, h3⟩

theorem nodup_missing (B : Nat) (done : List Nat) : (missing B done).Nodup :=
  List.Nodup.sublist List.filter_sublist (List.nodup_range' 1)

theorem missing_nil (B : Nat) : missing B [] = List.range' 1 B := by
  simp [missing]

/-! ### abstract effect of grow tasks on the set of result files -/

/-- the result files after batch `b` was grown (`has i` = a result file for batch `i` exists) -/
def growF (has : Nat → Bool) (b : Nat) : Nat → Bool := fun i => i == b || has i

def growMany (l : List Nat) (has : Nat → Bool) : Nat → Bool := l.foldl growF has

/-- ids in `1..B` with a result file -/
def doneList (has : Nat → Bool) (B : Nat) : List Nat := (List.range' 1 B).filter has

/-- all array tasks of a script have run (in any order: `growF` commutes) -/
def runArray (s : Script) (has : Nat → Bool) : Nat → Bool := growMany (s.tasks.filterMap (taskBatch s)) has

/-- the single-mode job has run -/
def runSingle (s : Script) (B : Nat) (has : Nat → Bool) : Nat → Bool :=
  growMany (singleIds s (missing B (doneList has B))) has

theorem growMany_eq (l : List Nat) (has : Nat → Bool) (i : Nat) : growMany l has i = (l.contains i || has i) := by
  induction l generalizing has with
  | nil => simp [growMany]
  | cons b r ih =>
    have : growMany (b :: r) has = growMany r (growF has b) := by simp [growMany]
    rw [this, ih]
    simp only [growF, List.contains_cons]
    cases hb : (i == b) <;> cases hr : r.contains i <;> simp

theorem missing_doneList (has : Nat → Bool) (B : Nat) :
    missing B (doneList has B) = (List.range' 1 B).filter (fun i => !has i) := by
  unfold missing doneList
  apply List.filter_congr
  intro i hi
  simp only [List.contains_eq_mem, List.mem_filter, hi, true_and]
  cases has i <;> simp

theorem growMany_missing (B : Nat) (has : Nat → Bool) (i : Nat) :
    growMany (missing B (doneList has B)) has i = (decide (1 ≤ i ∧ i ≤ B) || has i) := by
  rw [growMany_eq]
  cases hh : has i <;> simp [mem_missing, doneList, hh]

/-- once every batch `1..B` has a result the crop is ready to reap (`is_ready_to_reap`, extracted: `Gen.isReady`) -/
theorem ready_of_grown {B : Nat} {has run : Nat → Bool} (hB : 0 < B)
    (hrun : ∀ i, run i = (decide (1 ≤ i ∧ i ≤ B) || has i)) :
    (∀ i, 1 ≤ i → i ≤ B → run i = true) ∧
    (∀ i, run i = true → has i = true ∨ (1 ≤ i ∧ i ≤ B)) ∧
    Gen.isReady ((List.range' 1 B).countP run) B = true := by
  have hall : ∀ i, 1 ≤ i → i ≤ B → run i = true := fun i h1 h2 => by simp [hrun, h1, h2]
  refine ⟨hall, fun i hi => ?_, ?_⟩
  · rw [hrun] at hi
    simpa [or_comm] using hi
  · have hc : (List.range' 1 B).countP run = B := by
      rw [List.countP_eq_length.mpr, List.length_range']
      intro i hi
      have := List.mem_range'_1.mp hi
      exact hall i this.1 (by omega)
    rw [hc]
    simp [Gen.isReady, Gen.Default.isReady]
    omega

/-- what an array task grows when the range is `1..|ids|` and the grow line indexes `batch_ids` from 1 — or passes the
task index itself while the ids are `1..B`: task `t` of the range grows `ids[t-1]`, an index outside it nothing -/
theorem taskBatch_eq {s : Script} {B : Nat} (hm : s.mode = .array) (h1 : s.runStart = 1) (h2 : s.runStop = s.ids.length)
    (hg : s.growArg = .indexed 1 ∨ (s.growArg = .direct ∧ s.ids = List.range' 1 B)) (t : Nat) :
    taskBatch s t = if 1 ≤ t ∧ t ≤ s.ids.length then s.ids[t - 1]? else none := by
  unfold taskBatch
  by_cases hr : 1 ≤ t ∧ t ≤ s.ids.length
  · rw [if_pos ⟨hm, by omega, by omega⟩, if_pos hr]
    rcases hg with hg | ⟨hg, hi⟩
    · simp [hg, hr.1]
    · have hl : t ≤ B := by simpa [hi] using hr.2
      rw [hg, hi, List.getElem?_range' (by omega)]
      exact congrArg some (by omega)
  · rw [if_neg (by omega), if_neg hr]

theorem map_range'_of_getElem? (ids : List Nat) (f : Nat → Option Nat)
    (h : ∀ t, 1 ≤ t → t ≤ ids.length → f t = ids[t - 1]?) :
    (List.range' 1 ids.length).map f = ids.map some := by
  apply List.ext_getElem
  · simp
  · intro i h1 h2
    simp only [List.length_map, List.length_range'] at h1
    simp only [List.getElem_map, List.getElem_range']
    rw [h (1 + 1 * i) (by omega) (by omega)]
    have : 1 + 1 * i - 1 = i := by omega
    rw [this, List.getElem?_eq_getElem h1]

theorem filterMap_of_map_eq_map_some {α β} (l : List α) (f : α → Option β) (r : List β) (h : l.map f = r.map some) :
    l.filterMap f = r := by
  simpa [List.filterMap_map] using congrArg (List.filterMap id) h

/-! ### schedulers and modes through their names (the translated body compares strings) -/

@[simp] theorem name_sge (s : Sched) : (s.name == chars! "sge") = decide (s = .sge) := by cases s <;> decide
@[simp] theorem name_pbs (s : Sched) : (s.name == chars! "pbs") = decide (s = .pbs) := by cases s <;> decide
@[simp] theorem name_slurm (s : Sched) : (s.name == chars! "slurm") = decide (s = .slurm) := by cases s <;> decide
@[simp] theorem name_array (m : Mode) : (m.name == chars! "array") = decide (m = .array) := by cases m <;> decide
@[simp] theorem name_single (m : Mode) : (m.name == chars! "single") = decide (m = .single) := by cases m <;> decide
@[simp] theorem name_all (m : AMode) : (m.name == chars! "all") = decide (m = .all) := by cases m <;> decide
@[simp] theorem name_partial (m : AMode) : (m.name == chars! "partial") = decide (m = .part) := by cases m <;> decide
@[simp] theorem lower_name (s : Sched) : Py.lower s.name = s.name := by cases s <;> decide
theorem mode_valid (m : Mode) : (decide (m = .array) || decide (m = .single)) = true := by cases m <;> rfl
theorem sched_valid (s : Sched) : (decide (s = .sge) || decide (s = .pbs) || decide (s = .slurm)) = true := by cases s <;> rfl

theorem isNone_eq_true (v : PyVal) : isNone v = true ↔ v = .none := by cases v <;> simp [isNone]

/-! ### sequencing of statements that may raise (`Py.bind`) -/

namespace Py

theorem bind_congr_map {α α' β : Type} (φ : α → α') {X : Except Gen.PyErr α} {Y : Except Gen.PyErr α'}
    {f : α → Except Gen.PyErr β} {g : α' → Except Gen.PyErr β}
    (h1 : Py.bind X (fun a => .ok (φ a)) = Y) (h2 : ∀ a, f a = g (φ a)) : Py.bind X f = Py.bind Y g := by
  subst h1; cases X <;> simp [Py.bind, h2]

@[simp] theorem bind_ok_right {α : Type} (X : Except Gen.PyErr α) : Py.bind X (fun a => .ok a) = X := by
  cases X <;> rfl

theorem bind_assoc {α β γ : Type} (X : Except Gen.PyErr α) (f : α → Except Gen.PyErr β) (g : β → Except Gen.PyErr γ) :
    Py.bind (Py.bind X f) g = Py.bind X (fun a => Py.bind (f a) g) := by
  cases X <;> rfl

/-- a statement after an `if` runs after whichever branch was taken (so `if c: raise …` followed by the rest is an
`if` around the rest) -/
theorem bind_ite {α β : Type} (c : Prop) [Decidable c] (X Y : Except Gen.PyErr α) (f : α → Except Gen.PyErr β) :
    Py.bind (if c then X else Y) f = if c then Py.bind X f else Py.bind Y f := by
  split <;> rfl

theorem bind_eq_ok {α β : Type} {X : Except Gen.PyErr α} {f : α → Except Gen.PyErr β} {b : β} (h : Py.bind X f = .ok b) :
    ∃ a, X = .ok a ∧ f a = .ok b := by
  cases X with
  | error e => simp [Py.bind] at h
  | ok a => exact ⟨a, rfl, h⟩

end Py
end Scr
