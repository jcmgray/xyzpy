import XyzModel.Harvest
/-!
Facts about `XyzModel/StoreIO.lean` that the Harvester's and the save/load theorems share: every path function of the model
is `autoAddExt` (one named equation each), the stores' lookups after `sset` / `serase`, the attribute rewriting, the
extension rule on a name that just received an extension, the executable store (`save` / `load` at `tagCodec`), and the
engine a string literal names.
-/
namespace StoreIO
open DS

/-! ### one path (each `if` of a path function is an extracted anchor) -/

@[simp] theorem savePath_eq (name : String) (e : Engine) : savePath name e = autoAddExt name e := by
  simp [savePath, Gen.saveDsExtends, Gen.Default.saveDsExtends]
@[simp] theorem loadPath_eq (name : String) (e : Engine) : loadPath name e = autoAddExt name e := by
  simp [loadPath, Gen.loadDsExtends, Gen.Default.loadDsExtends]
@[simp] theorem hvAccessPath_eq (name : String) (e : Engine) : hvAccessPath name e = autoAddExt name e := by
  simp [hvAccessPath, Gen.loadFullAccessExtended, Gen.Default.loadFullAccessExtended]
@[simp] theorem hvIsfilePath_eq (name : String) (e : Engine) : hvIsfilePath name e = autoAddExt name e := by
  simp [hvIsfilePath, Gen.loadFullIsfileExtended, Gen.Default.loadFullIsfileExtended]
@[simp] theorem hvExistsPath_eq (name : String) (e : Engine) : hvExistsPath name e = autoAddExt name e := by
  simp [hvExistsPath, Gen.saveFullExistsExtended, Gen.Default.saveFullExistsExtended]
@[simp] theorem hvRemovePath_eq (name : String) (e : Engine) : hvRemovePath name e = autoAddExt name e := by
  simp [hvRemovePath, Gen.saveFullRemoveExtended, Gen.Default.saveFullRemoveExtended]
@[simp] theorem hvDeletePath_eq (name : String) (e : Engine) : hvDeletePath name e = autoAddExt name e := by
  simp [hvDeletePath, Gen.deleteRemoveExtended, Gen.Default.deleteRemoveExtended]
@[simp] theorem smExistsPath_eq (name : String) (e : Engine) : smExistsPath name e = autoAddExt name e := by
  simp [smExistsPath, Gen.saveMergeExistsExtended, Gen.Default.saveMergeExistsExtended]
@[simp] theorem smLoadEngine_eq (e : Engine) : smLoadEngine e = e := by
  simp [smLoadEngine, Gen.saveMergeLoadsWithEngine, Gen.Default.saveMergeLoadsWithEngine]
@[simp] theorem smLoadPath_eq (name : String) (e : Engine) : smLoadPath name e = autoAddExt name e := by
  simp [smLoadPath]

theorem alookup_sset {β} (s : GStore β) (k k' : String) (x : β) :
    alookup (sset s k x) k' = if k = k' then some x else alookup s k' := by
  induction s with
  | nil => simp [sset, alookup]
  | cons e r ih =>
    obtain ⟨k0, y⟩ := e
    by_cases h0 : k0 = k <;> by_cases h1 : k = k' <;> simp_all [sset, alookup]

theorem alookup_serase {β} (s : GStore β) (k k' : String) :
    alookup (serase s k) k' = if k = k' then none else alookup s k' := by
  induction s with
  | nil => simp [serase, alookup]
  | cons e r ih =>
    obtain ⟨k0, y⟩ := e
    by_cases h0 : k0 = k <;> by_cases h1 : k = k' <;> simp_all [serase, alookup]

theorem coerceAttr_idem (a : Attr) : coerceAttr (coerceAttr a) = coerceAttr a := by
  cases a with
  | bool b => cases b <;> rfl
  | _ => rfl

theorem coerceAttrs_idem (e : Engine) (d : Dataset) : coerceAttrs e (coerceAttrs e d) = coerceAttrs e d := by
  unfold coerceAttrs
  by_cases h : coercesAttrs e = true
  · simp [h, List.map_map, Function.comp_def, coerceAttr_idem]
  · simp [h]

theorem get_coerceAttrs (e : Engine) (d : Dataset) (n : String) (p : Pt) : (coerceAttrs e d).get n p = d.get n p := by
  unfold coerceAttrs; split <;> rfl

theorem coordsOf_coerceAttrs (e : Engine) (d : Dataset) (dim : String) :
    (coerceAttrs e d).coordsOf dim = d.coordsOf dim := by
  unfold coerceAttrs; split <;> rfl

theorem coords_coerceAttrs (e : Engine) (d : Dataset) : (coerceAttrs e d).coords = d.coords := by
  unfold coerceAttrs; split <;> rfl

theorem vars_coerceAttrs (e : Engine) (d : Dataset) : (coerceAttrs e d).vars = d.vars := by
  unfold coerceAttrs; split <;> rfl

theorem isInfix_append_self (p s : List Char) : isInfix p (s ++ p) = true := by
  induction s with
  | nil =>
    cases p with
    | nil => rfl
    | cons c r => simp [isInfix]
  | cons c r ih => simp [isInfix, ih]

theorem isSuffix_append_self (p s : List Char) : isSuffix p (s ++ p) = true := by
  unfold isSuffix
  rw [List.reverse_append]
  exact List.isPrefixOf_iff_prefix.mpr (List.prefix_append _ _)

theorem hasKnownExt_append (name ext : String) (k : String) (h : (k, ext) ∈ Gen.engineExt) :
    hasKnownExt (name ++ ext) = true := by
  unfold hasKnownExt
  rw [List.any_eq_true]
  refine ⟨(k, ext), h, ?_⟩
  cases Gen.extRuleSubstring
  · simp [String.toList_append, isSuffix_append_self]
  · simp [String.toList_append, isInfix_append_self]

theorem load_save (store : Store) (name : String) (e : Engine) (d : Dataset) :
    load (save store name e d) name e = .ok (coerceAttrs e d) := by
  simp [load, save, loadVia, saveVia, alookup_sset, tagCodec]

theorem alookup_save (store : Store) (name : String) (e : Engine) (d : Dataset) (k : String) :
    alookup (save store name e d) k =
      if autoAddExt name e = k then some ⟨e, coerceAttrs e d⟩ else alookup store k := by
  simp [save, saveVia, alookup_sset, tagCodec]

theorem load_ok_iff (store : Store) (name : String) (e : Engine) (M : Dataset) :
    load store name e = .ok M ↔ ∃ f, alookup store (autoAddExt name e) = some f ∧ f.engine = e ∧ f.ds = M := by
  simp only [load, loadVia, loadPath_eq]
  cases hf : alookup store (autoAddExt name e) with
  | none => simp
  | some f =>
    by_cases he : f.engine = e <;> simp [tagCodec, he]

end StoreIO

namespace Harvest
open StoreIO

/-- the engine a string literal of the source names (an unknown literal is read as `zarr`) -/
def engineOfKey (s : String) : Engine :=
  if s = "h5netcdf" then .h5netcdf else if s = "netcdf4" then .netcdf4 else if s = "joblib" then .joblib else .zarr

end Harvest

theorem StoreIO.engineOfKey_key (e : StoreIO.Engine) : Harvest.engineOfKey e.key = e := by
  cases e <;> decide
