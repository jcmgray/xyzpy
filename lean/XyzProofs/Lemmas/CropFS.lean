import XyzModel.CropFS
import XyzProofs.Lemmas.PyDict
/-!
Invariants of the file-system level model (`XyzModel/CropFS.lean`): `FS.Inv`, kept by every event the protocol predicate
accepts (`okEv_inv`, `checkFrom_inv`), and `Conc.Inv`, kept by every step of every process under the protocol `tmpRename`
(`run_inv`, `reachable_inv`).  C10 and C11 read their statements off these.
-/
namespace FS
open List

/-! `lookup`, `erase` and `set` are `Gen.Py.dictGet`, `dictErase` and "erase, then append" by definition (Lemmas/PyDict.lean) -/

theorem lookup_erase {γ : Type} (s : List (String × γ)) (p q : String) :
    lookup (erase s p) q = if q = p then none else lookup s q := by
  have h : lookup (erase s p) q = if (q == p) = true then none else lookup s q := Gen.Py.get_erase s p q
  simpa only [beq_iff_eq] using h

theorem lookup_set {γ : Type} (s : List (String × γ)) (p q : String) (f : γ) :
    lookup (set s p f) q = if q = p then some f else lookup s q := by
  have h : lookup (set s p f) q = if (q == p) = true then some f else lookup s q := Gen.Py.get_erase_append s p q f
  simpa only [beq_iff_eq] using h

/-- a name that must not be open for writing: a final name, or a temporary the ghost calls closed -/
def Sealed (isFinal : String → Bool) (g : Ghost) (p : String) : Prop :=
  isFinal p = true ∨ ∃ pid, glookup g p = some (pid, true)

def Inv (isFinal : String → Bool) (g : Ghost) (s : State) : Prop :=
  ∀ p f, Sealed isFinal g p → lookup s p = some f → f.openW = false

theorem sealed_of_gerase {isFinal : String → Bool} {g : Ghost} {q p : String}
    (h : Sealed isFinal (gerase g q) p) : Sealed isFinal g p := by
  simp only [Sealed, glookup, gerase, lookup_erase] at h ⊢
  split at h
  · exact h.imp_right fun ⟨_, h⟩ => nomatch h
  · exact h

theorem lookup_rename (s : State) (pid : Nat) (a b p : String) :
    lookup (apply s (.rename pid a b)) p =
      if (lookup s a).isSome then (if p = b then lookup s a else if p = a then none else lookup s p)
      else lookup s p := by
  simp only [apply]
  split
  · next f hf => simp [lookup_set, lookup_erase, hf]
  · next hn => simp [hn]

theorem okEv_inv (isFinal : String → Bool) (g g' : Ghost) (s : State) (e : Ev)
    (hok : okEv isFinal g e = some g') (h : Inv isFinal g s) : Inv isFinal g' (apply s e) := by
  intro p f hp hl
  cases e with
  | openw pid q trunc =>
    simp only [okEv] at hok
    split at hok
    · cases hok
    · next hq =>
      cases hok
      simp only [apply] at hl
      have hne : p ≠ q := by
        rintro rfl
        simp [Sealed, hq, glookup, gset, lookup_set] at hp
      simp only [Sealed, glookup, gset, lookup_set, hne, if_false] at hp
      split at hl <;> (simp only [lookup_set, hne, if_false] at hl; exact h p f hp hl)
  | write pid q n =>
    simp only [okEv] at hok
    split at hok <;> cases hok
    simp only [apply] at hl
    split at hl
    · next f0 hf0 =>
      by_cases hpq : p = q
      · subst hpq; simp only [lookup_set, if_true, Option.some.injEq] at hl; subst hl; exact h p f0 hp hf0
      · simp only [lookup_set, hpq, if_false] at hl; exact h p f hp hl
    · exact h p f hp hl
  | close pid q =>
    simp only [apply] at hl
    by_cases hpq : p = q
    · subst hpq
      split at hl
      · simp only [lookup_set, if_true, Option.some.injEq] at hl; subst hl; rfl
      · next hn => rw [hn] at hl; cases hl
    · have hp' : Sealed isFinal g p := by
        simp only [okEv] at hok
        split at hok
        · split at hok <;> cases hok
          · simpa only [Sealed, glookup, gset, lookup_set, hpq, if_false] using hp
          · exact hp
        · cases hok; exact hp
      split at hl
      · simp only [lookup_set, hpq, if_false] at hl; exact h p f hp' hl
      · exact h p f hp' hl
  | rename pid a b =>
    simp only [okEv] at hok
    split at hok
    · cases hok
    · -- the ghost: erasing entries seals nothing; a sealed target is a final name, fed from a temporary the ghost calls closed
      obtain ⟨hs, hb⟩ : Sealed isFinal g p ∧ (p = b → ∃ pid', glookup g a = some (pid', true)) := by
        split at hok
        · split at hok
          · next pid' hga =>
            split at hok <;> cases hok
            exact ⟨sealed_of_gerase hp, fun _ => ⟨pid', hga⟩⟩
          · cases hok
        · next hbfin =>
          cases hok
          refine ⟨sealed_of_gerase (sealed_of_gerase hp), ?_⟩
          rintro rfl
          simp [Sealed, hbfin, glookup, gerase, lookup_erase] at hp
      -- the state: the file under `b` is the one that was under `a`, `a` is gone, the others stay
      rw [lookup_rename] at hl
      split at hl
      · split at hl
        · next e =>
          obtain ⟨pid', hga⟩ := hb e
          exact h a f (Or.inr ⟨pid', hga⟩) hl
        · split at hl
          · cases hl
          · exact h p f hs hl
      · exact h p f hs hl
  | unlink pid q =>
    cases hok
    simp only [apply, lookup_erase] at hl
    split at hl
    · cases hl
    · next hpq =>
      simp only [Sealed, glookup, gerase, lookup_erase, hpq, if_false] at hp
      exact h p f hp hl
  | other pid => cases hok; exact h p f hp hl

theorem checkFrom_inv (isFinal : String → Bool) (pre suf : List Ev) (g : Ghost) (s : State) (h : Inv isFinal g s)
    (hck : (checkFrom isFinal g (pre ++ suf)).isSome = true) : ∃ g', Inv isFinal g' (pre.foldl apply s) := by
  induction pre generalizing g s with
  | nil => exact ⟨g, h⟩
  | cons e pre ih =>
    simp only [List.cons_append, checkFrom] at hck
    split at hck
    · next g' hok => exact ih g' (apply s e) (okEv_inv isFinal g g' s e hok h) hck
    · cases hck

end FS

namespace Conc
open List

/-- what grower `gr` has in its private temporary `tmp` between two of its steps -/
def TmpOk (payload : Nat → Payload) (tmp : Option Payload) (gr : Grower) : Prop :=
  match gr.pc with
  | .writing d => tmp = some ((payload gr.batch).take d)
  | .closed => tmp = some (payload gr.batch)
  | _ => True

structure Inv (payload : Nat → Payload) (s : Sys) : Prop where
  mode_eq : s.mode = .tmpRename
  payload_eq : s.payload = payload
  res : ∀ i d, s.res i = some d → d = payload i
  tmp : ∀ g gr, s.growers[g]? = some gr → TmpOk payload (s.tmp g) gr
  failed : s.reaper.failed = false
  acc : s.reaper.acc = (List.range s.reaper.next).map payload
  counted : ∀ c ∈ s.counted, ∀ x ∈ c, x.2 = payload x.1

section
variable {payload : Nat → Payload}

theorem stepReaper_inv (s : Sys) (h : Inv payload s) : Inv payload (stepReaper s) := by
  unfold stepReaper
  split
  · exact h
  · split
    · exact h
    · next data hd =>
      rw [if_pos (h.payload_eq ▸ h.res _ _ hd)]
      exact { h with acc := by simp [h.acc, h.res _ _ hd, List.range_succ] }

theorem stepPoller_inv (s : Sys) (h : Inv payload s) : Inv payload (stepPoller s) := by
  refine { h with counted := List.forall_mem_cons.mpr ⟨fun x hx => ?_, h.counted⟩ }
  simp only [List.mem_filterMap, Option.map_eq_some_iff] at hx
  obtain ⟨i, _, d, hd, rfl⟩ := hx
  exact h.res i d hd

/-- grower `g` moves on and may rewrite its own temporary: the other growers' temporaries are untouched -/
theorem tmp_set (s : Sys) (h : Inv payload s) (g : Nat) (gr : Grower) (tmp' : Nat → Option Payload)
    (hg : TmpOk payload (tmp' g) gr) (hne : ∀ g', g' ≠ g → tmp' g' = s.tmp g') :
    ∀ g' gr', (s.growers.set g gr)[g']? = some gr' → TmpOk payload (tmp' g') gr' := by
  intro g' gr' hg'
  rw [List.getElem?_set] at hg'
  split at hg'
  · next e => subst e; split at hg' <;> cases hg'; exact hg
  · next e => rw [hne g' (Ne.symm e)]; exact h.tmp g' gr' hg'

theorem stepGrower_inv (s : Sys) (g : Nat) (h : Inv payload s) : Inv payload (stepGrower s g) := by
  unfold stepGrower
  split
  · exact h
  · next gr hg =>
    have hgr := h.tmp g gr hg
    unfold TmpOk at hgr
    split
    · exact { h with tmp := tmp_set s h g _ _ (by simp [TmpOk, setFn]) (fun _ e => if_neg e) }
    · next hpc =>
      rw [hpc] at hgr
      dsimp only
      split
      · exact { h with tmp := tmp_set s h g _ _ (by simp [TmpOk, setFn, h.payload_eq]) (fun _ e => if_neg e) }
      · next hd =>
        refine { h with tmp := tmp_set s h g _ _ ?_ (fun _ _ => rfl) }
        simp only [TmpOk]
        rw [hgr, ← h.payload_eq, List.take_of_length_le (by omega)]
    · -- the rename publishes the complete temporary
      next hpc =>
      rw [hpc] at hgr
      refine { h with tmp := tmp_set s h g _ _ (by simp [TmpOk]) (fun _ e => if_neg e), res := fun i d hi => ?_ }
      simp only [setFn] at hi
      split at hi
      · next e => rw [hgr] at hi; cases hi; rw [e]
      · exact h.res i d hi
    · next hm _ => rw [h.mode_eq] at hm; cases hm
    · next hm _ => rw [h.mode_eq] at hm; cases hm
    · next hm _ => rw [h.mode_eq] at hm; cases hm
    · exact h

theorem run_inv (s : Sys) (h : Inv payload s) (sched : List Act) : Inv payload (run s sched) := by
  unfold run
  induction sched generalizing s with
  | nil => exact h
  | cons a t ih =>
    apply ih
    cases a with
    | grow g => exact stepGrower_inv s g h
    | reap => exact stepReaper_inv s h
    | poll => exact stepPoller_inv s h

end

theorem init_inv (nb : Nat) (payload : Nat → Payload) (batches : List Nat) :
    Inv payload (init .tmpRename nb payload batches) where
  mode_eq := rfl
  payload_eq := rfl
  res _ _ h := nomatch h
  tmp g gr hg := by
    simp only [init, List.getElem?_map, Option.map_eq_some_iff] at hg
    obtain ⟨b, _, rfl⟩ := hg
    trivial
  failed := rfl
  acc := rfl
  counted _ h := nomatch h

theorem reachable_inv (nb : Nat) (payload : Nat → Payload) (batches : List Nat) (sched : List Act) :
    Inv payload (run (init .tmpRename nb payload batches) sched) :=
  run_inv _ (init_inv nb payload batches) sched

end Conc
