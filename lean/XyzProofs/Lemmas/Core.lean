import XyzModel.Core
import XyzProofs.Lemmas.InsertSorted
/-! Lemmas about `Core`/`Nest`: the nesting, the shuffle, the result table, what `processNested` holds at a slot, the run
in closed form (`core_eq`), and the sorted union of the case coordinates. -/
namespace Core
open List

variable {V β : Type}

theorem nest_snoc (vals : List (List V)) (last : List V) (g : List V → Nest β) :
    nest (vals ++ [last]) g = nest vals (fun p => .node (last.map fun v => g (p ++ [v]))) := by
  induction vals generalizing g with
  | nil => simp [nest]
  | cons vs rest ih =>
    simp only [List.cons_append, nest]
    congr 1
    apply List.map_congr_left
    intro v _
    rw [ih]

theorem loop_eq (dflt : Nest β) (rvals : List (List V)) (store : List V → Option (Nest β)) :
    loop dflt rvals store = nest rvals.reverse (fun p => (store p).getD dflt) := by
  induction rvals generalizing store with
  | nil => simp [loop, nest]
  | cons last rrest ih =>
    simp only [loop, List.reverse_cons]
    rw [ih, nest_snoc]
    rfl

/-- the iterative `_unflatten` computes the recursive nesting -/
theorem unflatten_eq (dflt : Nest β) (vals : List (List V)) (store : List V → Option (Nest β)) :
    unflatten dflt vals store = nest vals (fun p => (store p).getD dflt) := by
  simp [unflatten, loop_eq]

theorem mem_product_nil (p : List V) : p ∈ product ([] : List (List V)) ↔ p = [] := by
  simp [product]

theorem mem_product_cons (vs : List V) (rest : List (List V)) (p : List V) :
    p ∈ product (vs :: rest) ↔ ∃ v ∈ vs, ∃ q ∈ product rest, p = v :: q := by
  simp only [product, List.mem_flatMap, List.mem_map, eq_comm]

/-- position `idx` of the nested result holds `g` at the values selected by `idx` -/
theorem nest_get (vals : List (List V)) (g : List V → Nest β) (idx : List Nat) (p : List V)
    (h : pick vals idx = some p) : (nest vals g).get idx = some (g p) := by
  -- the cases and their binders are those of `pick.induct`
  fun_induction pick vals idx generalizing g p with
  | case1 => cases h; rfl
  | case2 vs rest i is v q hq hv ih => cases h; simp [nest, Nest.get, hv, ih _ _ hq]
  | case3 | case4 => cases h

theorem mem_product_of_pick (vals : List (List V)) (idx : List Nat) (p : List V)
    (h : pick vals idx = some p) : p ∈ product vals := by
  fun_induction pick vals idx generalizing p with
  | case1 => cases h; exact (mem_product_nil _).mpr rfl
  | case2 vs rest i _ v q hq hv ih =>
    cases h
    exact (mem_product_cons ..).mpr ⟨v, List.mem_of_getElem? hv, q, ih _ hq, rfl⟩
  | case3 | case4 => cases h

theorem length_of_mem_product (vals : List (List V)) (p : List V) (h : p ∈ product vals) : p.length = vals.length := by
  induction vals generalizing p with
  | nil => simp [(mem_product_nil p).mp h]
  | cons vs rest ih =>
    obtain ⟨v, _, q, hq, rfl⟩ := (mem_product_cons ..).mp h
    simp [ih q hq]

theorem length_of_pick (vals : List (List V)) (idx : List Nat) (p : List V)
    (h : pick vals idx = some p) : p.length = vals.length :=
  length_of_mem_product vals p (mem_product_of_pick vals idx p h)

theorem mem_product_snoc (init : List (List V)) (last p : List V) (v : V) (hp : p ∈ product init) (hv : v ∈ last) :
    p ++ [v] ∈ product (init ++ [last]) := by
  induction init generalizing p with
  | nil =>
    rw [(mem_product_nil p).mp hp]
    exact (mem_product_cons ..).mpr ⟨v, hv, [], (mem_product_nil _).mpr rfl, rfl⟩
  | cons vs rest ih =>
    obtain ⟨x, hx, q, hq, rfl⟩ := (mem_product_cons ..).mp hp
    exact (mem_product_cons ..).mpr ⟨x, hx, q ++ [v], ih q hq, rfl⟩

theorem product_nodup (vals : List (List V)) (h : ∀ vs ∈ vals, vs.Nodup) : (product vals).Nodup := by
  induction vals with
  | nil => simp [product]
  | cons vs rest ih =>
    have hr := ih fun x hx => h x (List.mem_cons_of_mem _ hx)
    have hv : vs.Nodup := h vs List.mem_cons_self
    simp only [product, List.Nodup, List.pairwise_flatMap, List.pairwise_map]
    refine ⟨fun a _ => hr.imp (fun hxy h' => hxy (List.cons.inj h').2), hv.imp ?_⟩
    intro a b hab x hx y hy
    simp only [List.mem_map] at hx hy
    obtain ⟨x', _, rfl⟩ := hx
    obtain ⟨y', _, rfl⟩ := hy
    exact fun h' => hab (List.cons.inj h').1

theorem nest_congr (vals : List (List V)) (g g' : List V → Nest β) (h : ∀ p ∈ product vals, g p = g' p) :
    nest vals g = nest vals g' := by
  induction vals generalizing g g' with
  | nil => exact h [] ((mem_product_nil _).mpr rfl)
  | cons vs rest ih =>
    simp only [nest]
    congr 1
    apply List.map_congr_left
    intro v hv
    exact ih _ _ fun p hp => h _ ((mem_product_cons ..).mpr ⟨v, hv, p, hp, rfl⟩)

variable {κ : Type}

theorem product_map_mono (ks : List κ) (f g : κ → List V) (h : ∀ k ∈ ks, ∀ x ∈ f k, x ∈ g k) :
    ∀ p ∈ product (ks.map f), p ∈ product (ks.map g) := by
  induction ks with
  | nil => exact fun p hp => hp
  | cons k ks ih =>
    intro p hp
    rw [List.map_cons, mem_product_cons] at hp ⊢
    obtain ⟨v, hv, q, hq, rfl⟩ := hp
    exact ⟨v, h k (List.mem_cons_self ..) v hv, q, ih (fun k hk => h k (List.mem_cons_of_mem _ hk)) q hq, rfl⟩

theorem zip_product_mem (ks : List κ) (f : κ → List V) :
    ∀ p ∈ product (ks.map f), ∀ s ∈ ks.zip p, s.2 ∈ f s.1 := by
  induction ks with
  | nil => intro p _ s hs; simp at hs
  | cons k ks ih =>
    intro p hp s hs
    rw [List.map_cons, mem_product_cons] at hp
    obtain ⟨v, hv, q, hq, rfl⟩ := hp
    rcases List.mem_cons.mp hs with rfl | hs
    · exact hv
    · exact ih q hq s hs

theorem map_getD_range {α} (l : List α) (d : α) : (List.range l.length).map (fun i => l.getD i d) = l := by
  apply List.ext_getElem
  · simp
  · intro i h1 h2
    simp [h2]

theorem keyLE_trans (a b c : Nat × β) (h1 : keyLE a b = true) (h2 : keyLE b c = true) : keyLE a c = true := by
  simp only [keyLE, decide_eq_true_eq] at *
  exact Nat.le_trans h1 h2

theorem keyLE_total (a b : Nat × β) : (keyLE a b || keyLE b a) = true := by
  simp only [keyLE, Bool.or_eq_true, decide_eq_true_eq]
  exact Nat.le_total a.1 b.1

theorem mergeSort_keys (ps : List (Nat × β)) (n : Nat) (h : ps.map Prod.fst ~ List.range n) :
    (ps.mergeSort keyLE).map Prod.fst = List.range n := by
  have hperm : (ps.mergeSort keyLE).map Prod.fst ~ List.range n := ((mergeSort_perm ps keyLE).map _).trans h
  have hs : ((ps.mergeSort keyLE).map Prod.fst).Pairwise (· ≤ ·) := by
    rw [List.pairwise_map]
    exact (pairwise_mergeSort keyLE_trans keyLE_total ps).imp (by intro a b hab; simpa [keyLE] using hab)
  exact hperm.eq_of_pairwise (le := (· ≤ ·)) (fun a b _ _ h1 h2 => Nat.le_antisymm h1 h2) hs
    ((List.pairwise_lt_range (n := n)).imp Nat.le_of_lt)

/-- sorting moves entries, and each carries its own key -/
theorem sort_map_range (h : Nat → β) (σ : List Nat) (n : Nat) (hσ : σ ~ List.range n) :
    (σ.map (fun i => (i, h i))).mergeSort keyLE = (List.range n).map (fun i => (i, h i)) := by
  have hkeys := mergeSort_keys (σ.map fun i => (i, h i)) n (by simpa [List.map_map, Function.comp_def] using hσ)
  have hent : ∀ p ∈ (σ.map fun i => (i, h i)).mergeSort keyLE, (p.1, h p.1) = p := by
    intro p hp
    obtain ⟨i, _, rfl⟩ := List.mem_map.mp ((mergeSort_perm _ _).mem_iff.mp hp)
    rfl
  rw [← hkeys, List.map_map]
  exact ((List.map_congr_left hent).trans (List.map_id _)).symm

theorem zip_map_eq {α} (f : α → β) (settings : List α) (σ : List Nat) (d : α) :
    σ.zip ((applyPerm σ settings d).map f) = σ.map (fun i => (i, f (settings.getD i d))) := by
  rw [applyPerm, List.map_map]
  exact List.map_prod_left_eq_zip.symm

/-- shuffle, run, sort back: the results come out in enumeration order, for every permutation -/
theorem runShuffled_eq {α} (f : α → β) (settings : List α) (σ : List Nat) (d : α)
    (hσ : σ ~ List.range settings.length) :
    runShuffled f settings σ d = settings.map f := by
  simp only [runShuffled, zip_map_eq, sort_map_range (fun i => f (settings.getD i d)) σ _ hσ, List.map_map]
  conv => rhs; rw [← map_getD_range settings d, List.map_map]
  rfl

theorem applyPerm_perm {α} (σ : List Nat) (l : List α) (d : α) (hσ : σ ~ List.range l.length) :
    applyPerm σ l d ~ l := by
  have h := hσ.map fun i => l.getD i d
  rwa [map_getD_range] at h

theorem applyPerm_length {α} (σ : List Nat) (l : List α) (d : α) : (applyPerm σ l d).length = σ.length := by
  simp [applyPerm]

/-! ### the dict built from `zip(locs, results)`

`Core.lookup` is `Gen.Py.dictGet` (hence `List.lookup`) written out again in the hand model: `rfl` proves them equal.  This
file stays below the translation's vocabulary (`Lemmas/PyDict` imports `Gen`), so its one lookup fact is proved directly;
`CoreRefine.dictGet_table` is where the two meet. -/

theorem lookup_zip_map (f : List Nat → β) (locs : List (List Nat)) (p : List Nat) :
    lookup (locs.zip (locs.map f)) p = if p ∈ locs then some (f p) else none := by
  induction locs with
  | nil => rfl
  | cons q rest ih =>
    simp only [List.map_cons, List.zip_cons_cons, lookup, List.find?_cons, List.mem_cons]
    by_cases hq : q = p
    · simp [hq]
    · have : (q == p) = false := by simpa using hq
      simp only [this, Ne.symm hq, false_or]
      exact ih

theorem locs_grid (s : Sweep) (h : s.caseRows = none) : s.locs = product s.comboVals := by
  simp [Sweep.locs, h]

theorem locs_cases (s : Sweep) (rows : List (List Nat)) (hr : s.caseRows = some rows) :
    s.locs = rows.flatMap fun cp => (product s.comboVals).map (cp ++ ·) := by
  simp [Sweep.locs, hr]

theorem coords_grid (s : Sweep) (h : s.caseRows = none) : s.coords = s.comboVals := by
  simp [Sweep.coords, Sweep.caseCoords, h]

/-- with or without cases, `process_results` nests over the coordinate grid (which is the combo grid when there are
no cases) -/
theorem processNested_eq (s : Sweep) (results : List β) (ph : β) :
    processNested s results ph
      = nest s.coords (fun p => ((lookup (s.locs.zip results) p).map Nest.leaf).getD (.leaf ph)) := by
  unfold processNested
  cases hr : s.caseRows with
  | none => simp only [unflatten_eq, coords_grid s hr]
  | some rows => simp only [unflatten_eq]

/-- the nested output, read at any index path of the coordinate grid -/
theorem processNested_get (s : Sweep) (g : List Nat → β) (ph : β) (idx p : List Nat)
    (hp : pick s.coords idx = some p) :
    (processNested s (s.locs.map g) ph).get idx = some (.leaf (if p ∈ s.locs then g p else ph)) := by
  rw [processNested_eq, nest_get _ _ _ _ hp, lookup_zip_map]
  by_cases hmem : p ∈ s.locs <;> simp [hmem]

/-- on a grid every slot was evaluated -/
theorem processNested_get_grid (s : Sweep) (g : List Nat → β) (ph : β) (idx p : List Nat) (hg : s.caseRows = none)
    (hp : pick s.comboVals idx = some p) : (processNested s (s.locs.map g) ph).get idx = some (.leaf (g p)) := by
  rw [processNested_get s g ph idx p (coords_grid s hg ▸ hp), if_pos (locs_grid s hg ▸ mem_product_of_pick _ _ _ hp)]

/-- a strategy is well formed for `n` settings when its permutations are permutations of `0..n-1` -/
def Strategy.WF (n : Nat) : Strategy → Prop
  | .seq => True
  | .shuffled σ => σ ~ List.range n
  | .executor π => π ~ List.range n
  | .shuffledExecutor σ π => σ ~ List.range n ∧ π ~ List.range n

theorem runLinear_results (f : List Nat → β) (locs : List (List Nat)) (st : Strategy) (h : st.WF locs.length) :
    (runLinear f locs st).2 = locs.map f := by
  cases st with
  | seq | executor π => rfl
  | shuffled σ => exact runShuffled_eq f locs σ [] h
  | shuffledExecutor σ π => exact runShuffled_eq f locs σ [] h.1

theorem runLinear_log (f : List Nat → β) (locs : List (List Nat)) (st : Strategy) (h : st.WF locs.length) :
    (runLinear f locs st).1 ~ locs := by
  cases st with
  | seq => exact Perm.refl _
  | shuffled σ => exact applyPerm_perm σ locs [] h
  | executor π => exact applyPerm_perm π locs [] h
  | shuffledExecutor σ π =>
    obtain ⟨hσ, hπ⟩ := h
    have h1 := applyPerm_perm σ locs [] hσ
    exact (applyPerm_perm π (applyPerm σ locs []) [] (by rw [h1.length_eq]; exact hπ)).trans h1

/-- what `core` returns on a well-formed request, in closed form -/
theorem core_eq (f : List Nat → β) (nl : β → β) (s : Sweep) (st : Strategy)
    (hov : s.overlap = false) (hwf : st.WF s.locs.length) :
    core f nl s st = .ok { log := (runLinear f s.locs st).1, flat := s.locs.map f,
                           nested := processNested s (s.locs.map f) (nl (f (s.locs.headD []))) } := by
  -- the run, as the pair `core` takes apart: its log, and the results as `runLinear_results` gives them
  have hrl : runLinear f s.locs st = ((runLinear f s.locs st).1, s.locs.map f) :=
    Prod.ext rfl (runLinear_results f s.locs st hwf)
  unfold core
  rw [hrl]
  simp only [hov, Bool.false_eq_true, if_false]
  cases s.locs <;> rfl

/-- with `split=True`: one such run per output component -/
theorem coreSplit_eq (k : Nat) (f : List Nat → List β) (dfl : β) (nl : β → β) (s : Sweep) (st : Strategy)
    (hov : s.overlap = false) (hwf : st.WF s.locs.length) :
    coreSplit k f dfl nl s st = .ok ((List.range k).map fun j =>
      { log := (runLinear (fun loc => (f loc).getD j dfl) s.locs st).1
        flat := s.locs.map fun loc => (f loc).getD j dfl
        nested := processNested s (s.locs.map fun loc => (f loc).getD j dfl)
          (nl ((f (s.locs.headD [])).getD j dfl)) }) := by
  unfold coreSplit
  simp only [core_eq _ nl s st hov hwf]
  exact List.mapM_pure

theorem mem_insertSorted (x y : Nat) (l : List Nat) :
    y ∈ Sweep.insertSorted x l ↔ y = x ∨ y ∈ l :=
  InsertSorted.mem_ins Sweep.insertSorted (fun _ => rfl) (fun _ _ _ => rfl) x y l

theorem sorted_insertSorted (x : Nat) (l : List Nat) (h : l.Pairwise (· < ·)) :
    (Sweep.insertSorted x l).Pairwise (· < ·) := by
  induction l with
  | nil => simp [Sweep.insertSorted]
  | cons z zs ih =>
    simp only [Sweep.insertSorted]
    have hz := List.pairwise_cons.mp h
    split
    · rename_i hlt
      refine List.pairwise_cons.mpr ⟨?_, h⟩
      intro a ha
      rcases List.mem_cons.mp ha with rfl | ha
      · exact hlt
      · exact Nat.lt_trans hlt (hz.1 a ha)
    · split
      · exact h
      · rename_i h1 h2
        refine List.pairwise_cons.mpr ⟨?_, ih hz.2⟩
        intro a ha
        rcases (mem_insertSorted x a zs).mp ha with rfl | ha
        · omega
        · exact hz.1 a ha

theorem sortedSet_spec (l : List Nat) :
    (∀ y, y ∈ Sweep.sortedSet l ↔ y ∈ l) ∧ (Sweep.sortedSet l).Pairwise (· < ·) := by
  unfold Sweep.sortedSet
  refine ⟨fun y => by simpa using InsertSorted.mem_foldl_ins Sweep.insertSorted (fun _ => rfl) (fun _ _ _ => rfl) l [] y, ?_⟩
  suffices h : ∀ acc : List Nat, acc.Pairwise (· < ·) →
      (l.foldl (fun acc x => Sweep.insertSorted x acc) acc).Pairwise (· < ·) from h [] List.Pairwise.nil
  induction l with
  | nil => exact fun _ h => h
  | cons x _ ih => exact fun acc h => ih _ (sorted_insertSorted x acc h)

/-! ### the running example of the non-vacuity checks (`Props/C01`, `C02`, `C03`, `Refine/Core`): a 2×3 grid, and two sparse cases -/

def exSweep : Sweep := { comboArgs := ["a", "b"], comboVals := [[0, 1], [0, 1, 2]] }

def exCases : Sweep :=
  { caseArgs := ["a", "b"], caseRows := some [[2, 0], [0, 1]], comboArgs := ["c"], comboVals := [[0, 1]] }

end Core
