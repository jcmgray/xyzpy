import XyzModel.Missing
import XyzProofs.Lemmas.Dataset
import XyzProofs.Lemmas.Core
/-!
What the C13 theorems use of the missing-data model (`XyzModel/Missing.lean`): `DataAt`, the property's reading of "there is
data at a location", and `isCaseMissing` in its terms; the grid of `find_missing_cases` read through `Dataset.coordsOf`; data
that survives `combine_first`.
-/
namespace Missing
open DS

/-- a stored cell lies in the slice selected by location `loc` (agrees with it on every shared dimension) and counts
as data under the method -/
def DataAt (d : Dataset) (loc : Pt) (m : Method) : Prop :=
  ∃ e ∈ d.vars, ∃ c ∈ e.2.cells, ptMatches loc c.1 = true ∧ present m c.2 = true

theorem isCaseMissing_eq (d : Dataset) (loc : Pt) (m : Method) :
    isCaseMissing d loc m =
      (!d.hasLabels loc || d.vars.all fun e => e.2.cells.all fun c => !(ptMatches loc c.1 && present m c.2)) := by
  unfold isCaseMissing Dataset.sel
  cases d.hasLabels loc
  · rfl
  · simp [Var.sel, List.all_map, List.all_filter, Function.comp_def]

theorem isCaseMissing_eq_false (d : Dataset) (loc : Pt) (m : Method) :
    isCaseMissing d loc m = false ↔ d.hasLabels loc = true ∧ DataAt d loc m := by
  simp only [isCaseMissing_eq, Bool.or_eq_false_iff, Bool.not_eq_false', List.all_eq_false, List.all_eq_true,
    Classical.not_forall, Bool.not_eq_true', Bool.not_eq_false, Bool.and_eq_true, exists_prop, DataAt]

def gridDims (d : Dataset) (ignore : List String) : List (String × List Coord) :=
  d.coords.filter fun e => !ignore.contains e.1

theorem gridDims_fst (d : Dataset) (ignore : List String) :
    (gridDims d ignore).map (·.1) = (d.coords.map (·.1)).filter fun k => !ignore.contains k := by
  rw [List.filter_map]; rfl

theorem gridDims_snd (d : Dataset) (ignore : List String) (hn : (d.coords.map (·.1)).Nodup) :
    (gridDims d ignore).map (·.2) = ((gridDims d ignore).map (·.1)).map d.coordsOf := by
  rw [List.map_map]
  apply List.map_congr_left
  intro e he
  simp [Dataset.coordsOf, alookup_of_mem_nodup d.coords e.1 e.2 hn (List.mem_filter.mp he).1]

theorem hasLabels_of_grid (d : Dataset) (ignore : List String) (hnod : (d.coords.map (·.1)).Nodup)
    (c : List Coord) (hc : c ∈ Core.product ((gridDims d ignore).map (·.2))) :
    d.hasLabels (((gridDims d ignore).map (·.1)).zip c) = true := by
  rw [gridDims_snd d ignore hnod] at hc
  exact (hasLabels_iff d _).mpr (Core.zip_product_mem _ _ c hc)

theorem dataAt_combineFirst_left (a b : Dataset) (loc : Pt) (m : Method) (h : DataAt a loc m) :
    DataAt (a.combineFirst b) loc m := by
  obtain ⟨e, he, x, hx, h1, h2⟩ := h
  exact ⟨(e.1, { e.2 with cells := DS.combineFirst e.2.cells (b.cellsOf e.1) }),
    List.mem_append_left _ (List.mem_map.mpr ⟨e, he, rfl⟩), x, List.mem_append_left _ hx, h1, h2⟩

/-- a cell of `b` where `a` is null survives `a.combine_first(b)` -/
theorem dataAt_combineFirst_right (a b : Dataset) (loc : Pt) (m : Method) (hb : (b.vars.map (·.1)).Nodup)
    (e : String × Var) (he : e ∈ b.vars) (x : Pt × Tok) (hx : x ∈ e.2.cells) (hfree : a.get e.1 x.1 = none)
    (h1 : ptMatches loc x.1 = true) (h2 : present m x.2 = true) : DataAt (a.combineFirst b) loc m := by
  have hcells : b.cellsOf e.1 = e.2.cells := by
    simp [Dataset.cellsOf, alookup_of_mem_nodup b.vars e.1 e.2 hb he]
  simp only [Dataset.get, Dataset.cellsOf] at hfree
  cases hn : alookup a.vars e.1 with
  | none =>
    exact ⟨e, List.mem_append_right _ (List.mem_filter.mpr ⟨he, by simp [hn]⟩), x, hx, h1, h2⟩
  | some v =>
    rw [hn] at hfree
    refine ⟨(e.1, { v with cells := DS.combineFirst v.cells (b.cellsOf e.1) }),
      List.mem_append_left _ (List.mem_map.mpr ⟨(e.1, v), alookup_mem _ _ _ hn, rfl⟩), x, ?_, h1, h2⟩
    rw [hcells]
    exact List.mem_append_right _ (List.mem_filter.mpr ⟨hx, by simpa using hfree⟩)

end Missing
