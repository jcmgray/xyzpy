/-!
# Translated loops in closed form

The loop translator (`harness/pyloop2lean.py`) turns a `for` loop into a `List.foldl` over the loop's variables (a
`List.foldlM` in `Except` when the body can raise).  Each lemma here turns one shape of such a fold into a closed form.
Where the body has parts the translator may spell in more than one way (`foldl_flat_spec`, `foldl_pair_spec`,
`foldlM_append_one`, `foldl_checked`) it is taken as a variable (`F`, `step`) with a hypothesis saying what it computes, so
that the function it applies is found by unification and the proof that uses the lemma does not depend on the spelling;
the others name the body itself.

| loop body | fold | lemma |
|---|---|---|
| `acc.append(g(x))`, a comprehension | `acc ++ [g x]` | `foldl_append_one` |
| two lists, one element each per item | `(a ++ [g x], b ++ [h x])` | `foldl_pair_spec`, `foldl_append_two` |
| two lists, several elements per item (an inner loop) | `(a ++ G x, b ++ H x)` | `foldl_flat_spec` |
| a body in `Except` that never raises | `.ok (h a x)` | `foldlM_pure` |
| … and appends | `.ok (acc ++ [g x])` | `foldlM_append_one` |
| … and appends under a test | `if p x then .ok (acc ++ [g x]) else .ok acc` | `foldlM_append_ite` |
| … and extends | `.ok (acc ++ F x)` | `foldlM_append_flat` |
| a check per item, then a pure update (the hand models' folds over `Except`) | | `foldl_checked` |
| any step that passes an error on, started at an error | | `foldl_error` |

`enumerate(l)` is `(List.range l.length).zip l` wherever a translator spells it (`Gen.Py.enumerate`, `Gen.plEnumerate`
unfold to it): `enumerate_getElem?`.
-/
namespace PyLoop

/-- a loop that appends one value per item is a `map` (whatever the body looks like: a comprehension, a loop with
`append`, with or without a named local for the value — the function `g` is found by unification) -/
theorem foldl_append_one {γ δ : Type} (g : γ → δ) (l : List γ) (acc : List δ) :
    l.foldl (fun acc x => acc ++ [g x]) acc = acc ++ l.map g := by
  induction l generalizing acc with
  | nil => simp
  | cons x xs ih => simp [ih]

theorem foldl_flat_spec {γ δ ε : Type} (F : List δ × List ε → γ → List δ × List ε) (G : γ → List δ) (H : γ → List ε)
    (hF : ∀ acc x, F acc x = (acc.1 ++ G x, acc.2 ++ H x)) (l : List γ) (a : List δ) (b : List ε) :
    l.foldl F (a, b) = (a ++ l.flatMap G, b ++ l.flatMap H) := by
  induction l generalizing a b with
  | nil => simp
  | cons x xs ih => simp [hF, ih]

theorem foldl_pair_spec {γ δ ε : Type} (F : List δ × List ε → γ → List δ × List ε) (g : γ → δ) (h : γ → ε)
    (hF : ∀ acc x, F acc x = (acc.1 ++ [g x], acc.2 ++ [h x])) (l : List γ) (a : List δ) (b : List ε) :
    l.foldl F (a, b) = (a ++ l.map g, b ++ l.map h) := by
  rw [foldl_flat_spec F (fun x => [g x]) (fun x => [h x]) hF, ← List.map_eq_flatMap, ← List.map_eq_flatMap]

theorem foldl_append_two {γ δ ε : Type} (g : γ → δ) (h : γ → ε) (l : List γ) (a : List δ) (b : List ε) :
    l.foldl (fun (acc : List δ × List ε) x => (acc.1 ++ [g x], acc.2 ++ [h x])) (a, b) = (a ++ l.map g, b ++ l.map h) :=
  foldl_pair_spec _ g h (fun _ _ => rfl) l a b

/-- core's `List.foldlM_pure` with `pure` spelt `.ok`, as the translation spells it (the two agree only after unfolding, which
`simp only` does not do) -/
theorem foldlM_pure {γ δ ε : Type} (h : δ → γ → δ) (l : List γ) (a : δ) :
    l.foldlM (m := Except ε) (fun a x => .ok (h a x)) a = .ok (l.foldl h a) :=
  List.foldlM_pure

theorem foldlM_append_ite {α β ε : Type} (p : α → Bool) (g : α → β) (l : List α) (acc : List β) :
    List.foldlM (m := Except ε) (fun acc x => if p x then .ok (acc ++ [g x]) else .ok acc) acc l
      = .ok (acc ++ (l.filter p).map g) := by
  induction l generalizing acc with
  | nil => simp [pure, Except.pure]
  | cons x t ih =>
    simp only [List.foldlM_cons, List.filter_cons]
    cases hp : p x
    · simp only [Bool.false_eq_true, if_false]
      exact ih acc
    · simp only [if_true, List.map_cons]
      have := ih (acc ++ [g x])
      simp only [List.append_assoc, List.singleton_append] at this
      exact this

theorem foldlM_append_flat {α β ε : Type} (F : α → List β) (l : List α) (acc : List β) :
    List.foldlM (m := Except ε) (fun acc x => .ok (acc ++ F x)) acc l = .ok (acc ++ l.flatMap F) := by
  induction l generalizing acc with
  | nil => simp [pure, Except.pure]
  | cons x t ih =>
    simp only [List.foldlM_cons, List.flatMap_cons]
    have := ih (acc ++ F x)
    simp only [List.append_assoc] at this
    exact this

theorem foldlM_append_one {γ δ ε : Type} (F : List δ → γ → Except ε (List δ)) (g : γ → δ)
    (hF : ∀ acc x, F acc x = .ok (acc ++ [g x])) (l : List γ) (acc : List δ) :
    l.foldlM F acc = .ok (acc ++ l.map g) := by
  rw [show F = fun acc x => .ok (acc ++ [g x]) from funext fun acc => funext (hF acc),
    foldlM_append_flat (fun x => [g x]), ← List.map_eq_flatMap]

theorem foldl_error {α σ ε : Type} (step : Except ε σ → α → Except ε σ) (herr : ∀ e x, step (.error e) x = .error e)
    (l : List α) (e : ε) : l.foldl step (.error e) = .error e := by
  induction l with
  | nil => rfl
  | cons x xs ih => rw [List.foldl_cons, herr, ih]

/-- a loop that checks each item and otherwise updates the state purely (`step`, as the model's folds spell it: an error
is passed on): it succeeds iff every item passes, with the state folded by the update -/
theorem foldl_checked {α σ ε : Type} (step : Except ε σ → α → Except ε σ) (ok : α → Bool) (upd : σ → α → σ) (e : ε)
    (herr : ∀ e' x, step (.error e') x = .error e')
    (hok : ∀ m x, step (.ok m) x = if ok x then .ok (upd m x) else .error e) (l : List α) (m : σ) :
    l.foldl step (.ok m) = if l.all ok then .ok (l.foldl upd m) else .error e := by
  induction l generalizing m with
  | nil => rfl
  | cons x xs ih =>
    rw [List.foldl_cons, List.all_cons, hok]
    cases ok x with
    | true => simpa using ih (upd m x)
    | false => simpa using foldl_error step herr xs e

/-! ### `enumerate` -/

theorem enumerate_getElem? {α : Type} (l : List α) (i : Nat) :
    ((List.range l.length).zip l)[i]? = l[i]?.map fun a => (i, a) := by
  by_cases h : i < l.length
  · simp [h]
  · simp [Nat.not_lt.mp h]

/-! ### index lists (what `random.shuffle` of an `enumerate` leaves, `zip(*pairs)`) -/

theorem unzip_map_pair {γ : Type} (σ : List Nat) (g : Nat → γ) :
    (σ.map fun i => (i, g i)).unzip = (σ, σ.map g) := by
  rw [List.map_prod_left_eq_zip, List.unzip_zip (by simp)]

/-- a permutation of the indices of a non-empty list stays within range and is not empty -/
theorem perm_range_spec {σ : List Nat} {n : Nat} (h : σ.Perm (List.range n)) (hn : n ≠ 0) : (∀ i ∈ σ, i < n) ∧ σ ≠ [] := by
  refine ⟨fun i hi => by simpa using h.mem_iff.mp hi, ?_⟩
  rintro rfl
  exact hn (by simpa using h.length_eq.symm)

end PyLoop
