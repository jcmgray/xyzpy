import XyzModel.Gen.DefaultSt
/-!
What `stBind` and `stFinally` leave alone (`stBind_keeps`, `stFinally_keeps`, `stBind_error`: for every state skeleton),
and on top of it the one description both `save_full_ds(new)` and `save_full_df(new)` are proved equal to (`swapIn`, for
ANY operations `Gen.StoreOps`) with its frame lemma: memory is set last.
-/
namespace Gen

variable {S D G E : Type}

/-- `save_full_ds(new)` / `save_full_df(new)` for the engines whose file is swapped in one go: the writer is given the
temporary next to `dst`, the temporary is moved over `dst`, whatever is left of it is removed (`finally`), and only
then is memory set -/
def swapIn (o : StoreOps S D G E) (d : D) (g : Option G) (dst : NameRef G) (st : S) : S × Option E :=
  stBind
    (stFinally (stBind (o.saveData st d (.tmp dst) g) fun st => o.replace st (.tmp dst) dst)
      fun st => if o.pathExists st (.tmp dst) then o.remove st (.tmp dst) else (st, none))
    fun st => (o.setMem st (o.afterSave g d), none)

theorem stBind_keeps {α : Type} (f : S → α) (r : S × Option E) (k : S → S × Option E) (st : S)
    (hr : f r.1 = f st) (hk : ∀ s, f (k s).1 = f s) : f (stBind r k).1 = f st := by
  obtain ⟨s, _ | e⟩ := r
  · exact (hk s).trans hr
  · exact hr

theorem stFinally_keeps {α : Type} (f : S → α) (r : S × Option E) (k : S → S × Option E) (st : S)
    (hr : f r.1 = f st) (hk : ∀ s, f (k s).1 = f s) : f (stFinally r k).1 = f st := by
  obtain ⟨s, _ | e⟩ := r
  · exact (hk s).trans hr
  · have := (hk s).trans hr
    simp only [stFinally]
    generalize k s = r' at this ⊢
    obtain ⟨s', _ | e'⟩ := r' <;> exact this

theorem stBind_error {r : S × Option E} {k : S → S × Option E} {e : E} (hk : ∀ s, (k s).2 = none)
    (h : (stBind r k).2 = some e) : stBind r k = r := by
  obtain ⟨s, _ | e'⟩ := r
  · rw [stBind_ok, hk s] at h; cases h
  · rfl

/-- a quantity that the three file operations leave alone is left alone by a `swapIn` that raises: memory is set last -/
theorem swapIn_error_keeps {α : Type} (o : StoreOps S D G E) (f : S → α)
    (hsave : ∀ st d r g, f (o.saveData st d r g).1 = f st) (hreplace : ∀ st a b, f (o.replace st a b).1 = f st)
    (hremove : ∀ st r, f (o.remove st r).1 = f st)
    (d : D) (g : Option G) (dst : NameRef G) (st : S) (e : E) (herr : (swapIn o d g dst st).2 = some e) :
    f (swapIn o d g dst st).1 = f st := by
  unfold swapIn at herr ⊢
  rw [stBind_error (fun _ => rfl) herr]
  refine stFinally_keeps f _ _ st (stBind_keeps f _ _ st (hsave ..) fun s => hreplace ..) fun s => ?_
  split
  · exact hremove ..
  · rfl

/-- `swapIn_error_keeps` for what is in memory: `f` is the pair (`mem`, `memIsNone`) -/
theorem swapIn_error_keeps_mem (o : StoreOps S D G E)
    (hsave : ∀ st d r g, o.mem (o.saveData st d r g).1 = o.mem st ∧ o.memIsNone (o.saveData st d r g).1 = o.memIsNone st)
    (hreplace : ∀ st a b, o.mem (o.replace st a b).1 = o.mem st ∧ o.memIsNone (o.replace st a b).1 = o.memIsNone st)
    (hremove : ∀ st r, o.mem (o.remove st r).1 = o.mem st ∧ o.memIsNone (o.remove st r).1 = o.memIsNone st)
    (d : D) (g : Option G) (dst : NameRef G) (st : S) (e : E) (herr : (swapIn o d g dst st).2 = some e) :
    o.mem (swapIn o d g dst st).1 = o.mem st ∧ o.memIsNone (swapIn o d g dst st).1 = o.memIsNone st :=
  Prod.ext_iff.mp (swapIn_error_keeps o (fun s => (o.mem s, o.memIsNone s)) (fun _ _ _ _ => Prod.ext_iff.mpr (hsave ..))
    (fun _ _ _ => Prod.ext_iff.mpr (hreplace ..)) (fun _ _ => Prod.ext_iff.mpr (hremove ..)) d g dst st e herr)

end Gen
