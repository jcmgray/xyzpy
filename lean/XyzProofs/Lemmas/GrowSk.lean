import XyzProofs.Lemmas.Attempt
/-!
The translated skeleton of `grow` (`Gen.growSk`) is built from single attempts and `Gen.skLoop`s; both are instances of
`runPlan`, which is `Lc.attempt` (`Lemmas/Attempt.lean`).
-/
namespace GrowSk
open Gen

abbrev Out (ε : Type) := List ε × Option PyErr

/-- attempt the effects of `p` in order on top of the trace `t`; an effect that raises is recorded and ends the run -/
def runPlan {ε : Type} (fails : ε → Bool) : List ε → List ε → Out ε
  | [], t => (t, none)
  | e :: es, t => if fails e then (t ++ [e], some .other) else runPlan fails es (t ++ [e])

variable {ε : Type} (fails : ε → Bool)

theorem runPlan_eq_attempt : @runPlan ε = Lc.attempt := by
  funext fails p
  induction p with
  | nil => rfl
  | cons e es ih => funext t; simp only [runPlan, Lc.attempt, ih]

theorem skLoopB_trivial (item : Nat → ε) (n k : Nat) (t : List ε) :
    skLoopB fails item (fun _ t => (t, none)) n k t = Lc.attempt fails ((List.range' k n).map item) t := by
  induction n generalizing k t with
  | zero => rfl
  | succ n ih =>
    simp only [skLoopB, List.range'_succ, List.map_cons, Lc.attempt]
    split
    · rfl
    · simp [ih]

theorem skLoop_eq (item : Nat → ε) (n : Nat) (t : List ε) :
    skLoop fails item n t = Lc.attempt fails ((List.range n).map item) t := by
  simp [skLoop, skLoopB_trivial, List.range_eq_range']

theorem runPlan_ok_iff (p t : List ε) : (runPlan fails p t).2 = none ↔ ∀ e ∈ p, fails e = false := by
  rw [runPlan_eq_attempt]; exact Lc.attempt_ok_iff fails p t

theorem runPlan_ok_trace (p t : List ε) (h : (runPlan fails p t).2 = none) : (runPlan fails p t).1 = t ++ p := by
  rw [runPlan_eq_attempt] at h ⊢; exact Lc.attempt_ok_trace fails p t h

end GrowSk
