import XyzModel.Batch
/-! The Sower state machine in the model's own terms: the extracted tests resolved once (`sizeOf_eq`, `step_eq`), the
invariants of a run, the arithmetic of the prescribed sizes, and from these how many batch files a run writes and how
large each is (`length_sow_le_iff`, `sow_getElem_length`, `length_sow_of_fits`: what the C07 theorems are instances of). -/
namespace Batch
open List

variable {α : Type}

theorem sizeOf_eq (c : Cfg) (j : Nat) : sizeOf c j = c.batchsize + if j < c.remainder then 1 else 0 := by
  simp [sizeOf, Gen.sowerGetsExtra, Gen.Default.sowerGetsExtra]

/-- `Sower.__call__`: the batch is written when it reaches its prescribed size -/
theorem step_eq (c : Cfg) (s : St α) (x : α) :
    step c s x = if s.cur.length + 1 = sizeOf c s.out.length then { cur := [], out := s.out ++ [s.cur ++ [x]] }
      else { cur := s.cur ++ [x], out := s.out } := by
  have h : Gen.sowerFlush (s.cur ++ [x]).length c.batchsize (Gen.sowerGetsExtra s.out.length c.remainder) =
      decide (s.cur.length + 1 = sizeOf c s.out.length) := by
    simp only [sizeOf_eq, Gen.sowerFlush, Gen.Default.sowerFlush, Gen.sowerGetsExtra, Gen.Default.sowerGetsExtra,
      List.length_append, List.length_singleton, decide_eq_true_eq, Int.ofNat_lt]
    split <;> simp <;> omega
  simp only [step, h, decide_eq_true_eq]

theorem foldl_step_induction (c : Cfg) (Q : List α → St α → Prop) (h0 : Q [] { cur := [], out := [] })
    (hstep : ∀ p s x, Q p s → Q (p ++ [x]) (step c s x)) (l : List α) :
    Q l (l.foldl (step c) { cur := [], out := [] }) := by
  suffices h : ∀ p s, Q p s → Q (p ++ l) (l.foldl (step c) s) by simpa using h [] _ h0
  induction l with
  | nil => intro p s h; simpa using h
  | cons x xs ih => intro p s h; simpa using ih _ _ (hstep p s x h)

theorem foldl_flat (c : Cfg) (l : List α) :
    (l.foldl (step c) { cur := [], out := [] }).out.flatten ++ (l.foldl (step c) { cur := [], out := [] }).cur = l ∧
    ∀ b ∈ (l.foldl (step c) { cur := [], out := [] }).out, b ≠ [] := by
  refine foldl_step_induction c (fun p s => s.out.flatten ++ s.cur = p ∧ ∀ b ∈ s.out, b ≠ []) (by simp) ?_ l
  rintro p s x ⟨h1, h2⟩
  rw [step_eq]
  split
  · exact ⟨by simp [← h1], List.forall_mem_append.mpr ⟨h2, List.forall_mem_singleton.mpr (by simp)⟩⟩
  · exact ⟨by simp [← h1], h2⟩

def sumSizes (c : Cfg) (m : Nat) : Nat := ((List.range m).map (sizeOf c)).sum

theorem sumSizes_succ (c : Cfg) (m : Nat) : sumSizes c (m + 1) = sumSizes c m + sizeOf c m := by
  simp [sumSizes, List.range_succ]

theorem sumSizes_eq (c : Cfg) (m : Nat) : sumSizes c m = m * c.batchsize + min m c.remainder := by
  induction m with
  | zero => simp [sumSizes]
  | succ k ih => rw [sumSizes_succ, ih, sizeOf_eq, Nat.succ_mul]; split <;> omega

theorem sumSizes_mono (c : Cfg) {a b : Nat} (h : a ≤ b) : sumSizes c a ≤ sumSizes c b := by
  induction h with
  | refl => exact Nat.le_refl _
  | step _ ih => rw [sumSizes_succ]; omega

theorem sumSizes_lt (c : Cfg) (hb : 1 ≤ c.batchsize) {a b : Nat} (h : a < b) : sumSizes c a < sumSizes c b := by
  have h1 := sumSizes_mono c (show a + 1 ≤ b from h)
  rw [sumSizes_succ, sizeOf_eq] at h1
  omega

theorem foldl_sizes (c : Cfg) (hb : 1 ≤ c.batchsize) (l : List α) :
    (l.foldl (step c) { cur := [], out := [] }).out.map List.length =
      (List.range (l.foldl (step c) { cur := [], out := [] }).out.length).map (sizeOf c) ∧
    (l.foldl (step c) { cur := [], out := [] }).cur.length <
      sizeOf c (l.foldl (step c) { cur := [], out := [] }).out.length := by
  have hpos : ∀ j, 1 ≤ sizeOf c j := fun j => by rw [sizeOf_eq]; omega
  refine foldl_step_induction c
    (fun _ s => s.out.map List.length = (List.range s.out.length).map (sizeOf c) ∧ s.cur.length < sizeOf c s.out.length)
    ⟨rfl, hpos 0⟩ ?_ l
  rintro _ s x ⟨h1, h2⟩
  rw [step_eq]
  split
  · rename_i hfull
    exact ⟨by simp [List.range_succ, h1, hfull], hpos _⟩
  · exact ⟨h1, by simp only [List.length_append, List.length_singleton]; omega⟩

theorem sow_sizes (c : Cfg) (hb : 1 ≤ c.batchsize) (l : List α) :
    ∃ m r, r < sizeOf c m ∧ l.length = sumSizes c m + r ∧
      (sow c l).map List.length = (List.range m).map (sizeOf c) ++ (if r = 0 then [] else [r]) ∧
      (sow c l).length = m + if r = 0 then 0 else 1 := by
  obtain ⟨hs, hc⟩ := foldl_sizes c hb l
  have hf := congrArg List.length (foldl_flat c l).1
  rw [List.length_append, List.length_flatten, hs] at hf
  refine ⟨_, _, hc, hf.symm, ?_⟩
  suffices h : (sow c l).map List.length = (List.range _).map (sizeOf c) ++ (if _ = 0 then [] else [_]) from
    ⟨h, by simpa [apply_ite List.length] using congrArg List.length h⟩
  unfold sow finish
  split
  · rename_i he
    simp [List.isEmpty_iff.mp he, hs]
  · rename_i hne
    have : (l.foldl (step c) { cur := [], out := [] }).cur.length ≠ 0 := by simpa [List.isEmpty_iff] using hne
    simp [hs, this]

/-- **how many batch files**: `k` files suffice exactly when the first `k` prescribed sizes hold all the settings -/
theorem length_sow_le_iff (c : Cfg) (hb : 1 ≤ c.batchsize) (l : List α) (k : Nat) :
    (sow c l).length ≤ k ↔ l.length ≤ sumSizes c k := by
  obtain ⟨m, r, hr, hn, hs, hlen⟩ := sow_sizes c hb l
  rw [hlen, hn]
  have hsucc := sumSizes_succ c m
  rcases Nat.lt_trichotomy k m with hk | rfl | hk
  · have := sumSizes_lt c hb hk
    split <;> omega
  · split <;> omega
  · have := sumSizes_mono c (show m + 1 ≤ k from hk)
    split <;> omega

/-- **how large each batch file is**: its prescribed size, or what is left of the settings if that is less -/
theorem sow_getElem_length (c : Cfg) (hb : 1 ≤ c.batchsize) (l : List α) (j : Nat) (hj : j < (sow c l).length) :
    ((sow c l)[j]).length = min (sizeOf c j) (l.length - sumSizes c j) := by
  obtain ⟨m, r, hr, hn, hs, hlen⟩ := sow_sizes c hb l
  have h : ((sow c l).map List.length)[j]? = some ((sow c l)[j]).length := by simp [hj]
  rw [hs] at h
  have hsucc := sumSizes_succ c j
  rcases Nat.lt_or_ge j m with hjm | hjm
  · have := sumSizes_mono c (show j + 1 ≤ m from hjm)
    rw [List.getElem?_append_left (by simpa using hjm)] at h
    simp [hjm] at h
    omega
  · have hjm' : j = m := by split at hlen <;> omega
    subst hjm'
    have hr0 : r ≠ 0 := by intro h0; simp [h0] at hlen; omega
    simp [hr0] at h
    omega

/-- **the source's own acceptance test is the right one**: a configuration with `n ≤ batchsize * num_batches + remainder
< n + batchsize` (what `choose_batch_settings` checks when both are given) makes the Sower write exactly `num_batches`
files; the configurations computed from a batch size or a batch count alone pass the same test -/
theorem length_sow_of_fits (c : Cfg) (hb : 1 ≤ c.batchsize) (hr : c.remainder ≤ c.numBatches) (l : List α)
    (h1 : l.length ≤ c.numBatches * c.batchsize + c.remainder)
    (h2 : c.numBatches * c.batchsize + c.remainder < l.length + c.batchsize) : (sow c l).length = c.numBatches := by
  have hle := length_sow_le_iff c hb l
  apply Nat.le_antisymm
  · rw [hle, sumSizes_eq]; omega
  · cases hnb : c.numBatches with
    | zero => exact Nat.zero_le _
    | succ k =>
      have := (not_congr (hle k)).mpr (by rw [sumSizes_eq]; rw [hnb, Nat.succ_mul] at h2; omega)
      omega

/-! ### `choose_batch_settings`, mode by mode, in natural numbers -/

theorem chooseBatch_batchsize (n s : Nat) (rem? : Option Nat) (hs : 1 ≤ s) :
    chooseBatch n (some s) none rem? = .ok ⟨s, (n + s - 1) / s, 0⟩ := by
  have : ((n : Int) + (s : Int) - 1) = ((n + s - 1 : Nat) : Int) := by omega
  simp only [chooseBatch, Option.getD_some, Nat.not_lt.mpr hs, if_false, Gen.nbFromBs, Gen.Default.nbFromBs, this,
    ← Int.natCast_ediv, Int.toNat_natCast]

theorem chooseBatch_numBatches (n k : Nat) (rem? : Option Nat) (hB : 1 ≤ min k n) :
    chooseBatch n none (some k) rem? = .ok ⟨n / min k n, min k n, n % min k n⟩ := by
  have hcap : (Gen.capNb (n : Int) (k : Int)).toNat = min k n := by
    simp only [Gen.capNb, Gen.Default.capNb]; omega
  simp only [chooseBatch, hcap, Nat.not_lt.mpr hB, if_false, Gen.bsOfNb, Gen.Default.bsOfNb, Gen.remOfNb,
    Gen.Default.remOfNb, ← Int.natCast_ediv, ← Int.natCast_emod, Int.toNat_natCast]

theorem chooseBatch_both (n bs nb : Nat) (rem? : Option Nat) :
    chooseBatch n (some bs) (some nb) rem? =
      if n ≤ bs * nb + rem?.getD 0 ∧ bs * nb + rem?.getD 0 < n + bs then .ok ⟨bs, nb, rem?.getD 0⟩ else .error .value := by
  simp only [chooseBatch, Gen.bothOk, Gen.Default.bothOk, Bool.and_eq_true, decide_eq_true_eq]
  congr 1
  apply propext
  constructor <;> rintro ⟨h1, h2⟩ <;> exact ⟨by exact_mod_cast h1, by exact_mod_cast h2⟩

end Batch
