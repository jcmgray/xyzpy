import XyzModel.PlotPrep
/-! The generator loop of the translated plot preparation (`Gen.plLoop`, `Gen.plTry`; `XyzModel/Gen/DefaultPlotSrc.lean`): an
iteration that yields one series, the loop element by element, and the operations one iteration sees when it is run alone. -/
namespace PlotPrep
open List Gen

/-- an iteration that, when it succeeds, yields exactly one series -/
def YieldsOne {Y C : Type} (x : Except PErr (List Y × List C)) : Prop := ∀ s, x = .ok s → s.1.length = 1

theorem yieldsOne_bind {α Y C : Type} (x : Except PErr α) (f : α → Except PErr (List Y × List C))
    (h : ∀ a, YieldsOne (f a)) : YieldsOne (x >>= f) := by
  intro s hs
  cases x with
  | error e => simp [bind, Except.bind] at hs
  | ok a => exact h a s hs

theorem yieldsOne_pure {Y C : Type} (s : List Y × List C) (h : s.1.length = 1) :
    YieldsOne (pure s : Except PErr (List Y × List C)) := by
  intro s' hs
  simp only [pure, Except.pure, Except.ok.injEq] at hs
  subst hs; exact h

theorem yieldsOne_ite {Y C : Type} (c : Prop) [Decidable c] (a b : Except PErr (List Y × List C))
    (ha : YieldsOne a) (hb : YieldsOne b) : YieldsOne (if c then a else b) := by
  split <;> assumption

/-- structural proof that a translated generator body yields exactly one series on every path -/
macro "yields_one" : tactic => `(tactic|
  repeat (first
    | (apply yieldsOne_pure; simp; done)
    | (apply yieldsOne_bind; intro a)))

private theorem foldlM_plLoop {α Y C : Type} (step : Nat → α → Except PErr (List Y × List C))
    (h1 : ∀ i z, YieldsOne (step i z)) :
    ∀ (l : List (Nat × α)) (acc r : List Y × List C),
      l.foldlM (fun acc p => match step p.1 p.2 with
        | .ok r => .ok (acc.1 ++ r.1, acc.2 ++ r.2)
        | .error e => .error e) acc = Except.ok r →
      ∃ ds : List Y, r.1 = acc.1 ++ ds ∧ ds.length = l.length ∧
        ∀ k (hk : k < l.length), ∃ d cc, step l[k].1 l[k].2 = .ok ([d], cc) ∧ ds[k]? = some d
  | [], acc, r, h => by
    simp only [foldlM_nil, pure, Except.pure, Except.ok.injEq] at h
    subst h
    exact ⟨[], by simp⟩
  | p :: l, acc, r, h => by
    simp only [foldlM_cons, bind, Except.bind] at h
    cases hs : step p.1 p.2 with
    | error e => simp [hs] at h
    | ok s =>
      simp only [hs] at h
      obtain ⟨d, hd⟩ : ∃ d, s.1 = [d] := length_eq_one_iff.mp (h1 p.1 p.2 s hs)
      obtain ⟨ds, hr, hlen, hk⟩ := foldlM_plLoop step h1 l _ r h
      refine ⟨d :: ds, by simp [hr, hd], by simp [hlen], ?_⟩
      intro k hk'
      cases k with
      | zero => exact ⟨d, s.2, by rw [← hd]; exact hs, rfl⟩
      | succ k => simpa using hk k (by simpa using hk')

theorem plLoop_spec {α Y C : Type} (step : Nat → α → Except PErr (List Y × List C)) (l : List α) (r : List Y × List C)
    (h : plLoop step (plEnumerate l) = .ok r) (h1 : ∀ i z, YieldsOne (step i z)) :
    r.1.length = l.length ∧ ∀ k (hk : k < l.length), ∃ d cc, step k l[k] = .ok ([d], cc) ∧ r.1[k]? = some d := by
  obtain ⟨ds, hr, hlen, hk⟩ := foldlM_plLoop step h1 (plEnumerate l) ([], []) r h
  have hl : (plEnumerate l).length = l.length := by simp [plEnumerate]
  rw [nil_append] at hr
  refine ⟨by rw [hr, hlen, hl], ?_⟩
  intro k hk'
  obtain ⟨d, cc, h3, h4⟩ := hk k (by omega)
  exact ⟨d, cc, by simpa [plEnumerate] using h3, by rw [hr]; exact h4⟩

theorem plLoop_singleton {α Y C : Type} (step : Nat → α → Except PErr (List Y × List C)) (z : α) :
    plLoop step (plEnumerate [z]) = step 0 z := by
  simp only [plLoop, plEnumerate, length_cons, length_nil, range_succ, range_zero, nil_append, zip_cons_cons, zip_nil_right,
    foldlM_cons, foldlM_nil, bind, Except.bind, pure, Except.pure]
  cases step 0 z <;> rfl

theorem plLoop_per_elem {α Y C : Type} (step : Nat → α → Except PErr (List Y × List C)) (l : List α) (r : List Y × List C)
    (h : plLoop step (plEnumerate l) = .ok r) (h1 : ∀ i z, YieldsOne (step i z)) :
    r.1.length = l.length ∧ ∀ k (hk : k < l.length), ∃ d cc,
      plLoop (fun j => step (k + j)) (plEnumerate [l[k]]) = .ok ([d], cc) ∧ r.1[k]? = some d := by
  obtain ⟨hl, hs⟩ := plLoop_spec step l r h h1
  refine ⟨hl, fun k hk => ?_⟩
  obtain ⟨d, cc, h3, h4⟩ := hs k hk
  exact ⟨d, cc, by rw [plLoop_singleton]; exact h3, h4⟩

theorem bind_ok_of {ε α β : Type} {x : Except ε α} {f : α → Except ε β} {a : α} {b : β}
    (hx : x = .ok a) (hf : f a = .ok b) : x >>= f = .ok b := by
  rw [hx]
  exact hf

theorem plTry_eq_ok {α : Type} (a : Except PErr α) (h : PErr → Except PErr α) (v : α)
    (hv : a = .ok v ∨ ∃ e, a = .error e ∧ h e = .ok v) : plTry a h = .ok v := by
  rcases hv with rfl | ⟨e, rfl, he⟩
  · rfl
  · exact he

/-- the operations seen by the `k`-th iteration when it is run alone: positional selection counts from `k` -/
def shiftOps {D A F M C Z : Type} (o : PlotOps D A F M C Z) (k : Nat) : PlotOps D A F M C Z :=
  { o with isel := fun d key j => o.isel d key (k + j) }

/-- operations whose coordinate values are (position, `str`) pairs, as the model keeps them -/
def ModelCoords {D A F M C : Type} (o : PlotOps D A F M C (Nat × String)) (ds : D) (m : DS) : Prop :=
  (∀ z, o.coordValues ds z = (m.labels z).mapIdx fun i l => (i, l)) ∧ ∀ v, o.str v = v.2

end PlotPrep
