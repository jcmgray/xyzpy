/-!
# `same_gen`: two generated definitions denote the same function

A translated caller mentions `Gen.callee`; the committed last-good text of the caller (used when the caller cannot be
translated) mentions `Gen.Default.callee`.  The two callees are the same function whenever the callee's source is what
it was when the default was committed — definitionally (`rfl`) if the translation is textually the default, and otherwise
(a harmless rewrite of the callee: reordered tests, a dropped empty branch) after unfolding both and splitting every test,
where that suffices (it does not, for one, when the rewritten callee in turn calls another generated function).
-/
open Lean.Parser.Tactic in
syntax "same_gen" "[" simpLemma,* "]" : tactic
macro_rules
  | `(tactic| same_gen [$ds,*]) => `(tactic| first
      | rfl
      | (repeat (apply funext; intro _)
         simp only [$ds,*]
         repeat' split
         all_goals simp_all
         done))

/-- In a proof about a caller, after unfolding it: `same_callee Gen.Default.f Gen.f` rewrites the last-good callee, which
the caller's committed last-good text mentions, to the callee.  The equality is proved (`same_gen`) only AFTER the rewrite
has found `Gen.Default.f` in the goal: when the caller was translated there is none, the `try` gives up at the `simp only`,
leaves no equality behind, and nothing is asked of `Gen.f` (whose text may then differ from the last-good one in ways
`same_gen` cannot see through, or only at the price of a timeout that no `try` would catch).  When the rewrite did find it,
the equality is a goal of its own and `same_gen` failing on it is an error at this line, naming the two callees; its
limits: it splits the tests it can reach, so not those under a binder (`stBind … fun st => if …`), and it does not look
into a further generated function the callee calls.  The inner `try clear e`: the rewrite may already have closed the
goal, and then there is nothing to clear `e` from. -/
macro "same_callee " a:ident b:ident : tactic =>
  `(tactic| (try (refine (fun (e : @$a = @$b) => ?_) ?same_callee_eq
                  simp only [e]
                  try clear e)
             all_goals first
               | fail_if_success (guard_target =ₛ @$a = @$b)
               | same_gen [$a:ident, $b:ident]))
