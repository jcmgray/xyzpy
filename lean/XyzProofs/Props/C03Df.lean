import XyzProofs.Refine.Core
import XyzProofs.Props.C03
/-!
# C03 — DataFrame rows, on the translated source

`Gen.dfRows` is the loop of `results_to_df`, `Gen.coreRunInfo` the slice of `combo_runner_core` from the shuffle
bookkeeping to `info["settings"] = …`, `Gen.casesZip` the zip at the end of `parse_cases` — all translated from
xyzpy/gen/combo_runner.py / prepare.py on every run (harness/anchors_flow.py).  `Gen.coreRunInfo` re-translates the slice
`Gen.coreRun` covers and goes on to the `info` dict, so `coreRunInfo_*` run parallel to `CoreRefine.coreRun_*`: the two
are different generated terms with different return values, so there is no one statement to derive both from; what they
share is the rewriting of the generated sub-terms (`CoreRefine.unzip_shuffled`, `unzip_sortedBack`).
-/
namespace DfRefine
open Core Gen CoreRefine List

variable {V α β : Type}

theorem get_none_of_notin (e : List (String × V)) (k : String) (h : k ∉ e.map Prod.fst) : Py.dictGet e k = none :=
  Py.get_of_notin e k h

/-- what `results_to_df` makes of one setting and its result: the resources are removed, the attributes added, then
the output(s) under the output name(s) — a single output is stored whole, several are unpacked in order -/
def rowOf (asCell : β → V) (outputs : β → List V) (attrs resources : List (String × V)) (varNames : List String)
    (row : List (String × V)) (result : β) : List (String × V) :=
  let r2 := Py.dictUpdate ((resources.map Prod.fst).foldl Py.dictErase row) attrs
  match varNames with
  | [n] => Py.dictSet r2 n (asCell result)
  | _ => Py.dictUpdate r2 (Py.dictOfList (varNames.zip (outputs result)))

theorem get_rowOf (asCell : β → V) (outputs : β → List V) (attrs resources : List (String × V)) (varNames : List String)
    (row : List (String × V)) (result : β) (k : String) (h2 : k ∉ attrs.map Prod.fst) (h3 : k ∉ varNames) :
    Py.dictGet (rowOf asCell outputs attrs resources varNames row result) k
      = if k ∈ resources.map Prod.fst then none else Py.dictGet row k := by
  have base : Py.dictGet (Py.dictUpdate ((resources.map Prod.fst).foldl Py.dictErase row) attrs) k
      = if k ∈ resources.map Prod.fst then none else Py.dictGet row k := by
    rw [Py.get_update_notin attrs _ k h2, Py.get_eraseAll]
  unfold rowOf
  split
  · rename_i n
    rw [Py.get_set, if_neg (by simpa using fun h : k = n => h3 (by simp [h])), base]
  · rw [Py.get_update_of_none _ _ k (Py.get_ofList_notin _ k fun hk => h3 ((Py.fst_zip_sublist _ _).subset hk)), base]

/-- **the translated loop of `results_to_df`**: row `i` of the table is made of setting `i` and result `i` -/
theorem dfRows_refines (asCell : β → V) (outputs : β → List V) (results : List β) (settings : List (List (String × V)))
    (attrs resources : List (String × V)) (varNames : List String) :
    Gen.dfRows asCell outputs results settings attrs resources varNames
      = .ok ((settings.zip results).map fun p => rowOf asCell outputs attrs resources varNames p.1 p.2) := by
  simp only [Gen.dfRows, Gen.Default.dfRows]
  rw [PyLoop.foldlM_append_one (g := fun p => rowOf asCell outputs attrs resources varNames p.1 p.2)]
  · simp
  · rintro acc ⟨row, result⟩
    simp only [PyLoop.foldlM_pure]
    -- the body tests whether there is exactly one output name, and whether there are attributes: without any it skips
    -- the update that `rowOf` always makes (`Py.update_nil`: updating with nothing changes nothing)
    rcases varNames with _ | ⟨n, _ | ⟨m, t⟩⟩
    · cases attrs <;> simp [rowOf, Py.update_nil]
    · cases attrs <;> simp [rowOf, Py.update_nil]
    · cases attrs <;> simp [rowOf, Py.update_nil]

/-- **C03, DataFrame rows, on the translated `results_to_df`**: there is one row per (setting, result) pair, in order;
row `i` has, for every name that is neither a resource, an attribute nor an output, exactly the value setting `i` has
(the swept arguments and the constants in force); a resource is not recorded; a single output is result `i` itself,
several outputs are result `i`'s outputs in the order of the output names -/
theorem c03_df_rows_src (asCell : β → V) (outputs : β → List V) (results : List β) (settings : List (List (String × V)))
    (attrs resources : List (String × V)) (varNames : List String) (hlen : results.length = settings.length) :
    ∃ rows, Gen.dfRows asCell outputs results settings attrs resources varNames = .ok rows ∧
      rows.length = settings.length ∧
      ∀ i (hi : i < settings.length), ∃ row, rows[i]? = some row ∧
        (∀ k, k ∉ resources.map Prod.fst → k ∉ attrs.map Prod.fst → k ∉ varNames →
          Py.dictGet row k = Py.dictGet settings[i] k) ∧
        (∀ k, k ∈ resources.map Prod.fst → k ∉ attrs.map Prod.fst → k ∉ varNames → Py.dictGet row k = none) ∧
        (∀ n, varNames = [n] → Py.dictGet row n = some (asCell (results[i]'(hlen ▸ hi)))) ∧
        (varNames.length ≠ 1 → varNames.Nodup → ∀ j (hj : j < varNames.length)
          (hj' : j < (outputs (results[i]'(hlen ▸ hi))).length),
          Py.dictGet row varNames[j] = some (outputs (results[i]'(hlen ▸ hi)))[j]) := by
  refine ⟨_, dfRows_refines asCell outputs results settings attrs resources varNames, by simp [hlen], ?_⟩
  intro i hi
  have hi' : i < results.length := hlen ▸ hi
  refine ⟨rowOf asCell outputs attrs resources varNames settings[i] results[i], ?_, ?_, ?_, ?_, ?_⟩
  · rw [List.getElem?_map, (List.getElem?_zip_eq_some (z := (settings[i], results[i]))).mpr
      ⟨List.getElem?_eq_getElem hi, List.getElem?_eq_getElem hi'⟩]
    rfl
  · intro k h1 h2 h3
    rw [get_rowOf asCell outputs attrs resources varNames _ _ k h2 h3, if_neg h1]
  · intro k h1 h2 h3
    rw [get_rowOf asCell outputs attrs resources varNames _ _ k h2 h3, if_pos h1]
  · intro n hn
    subst hn
    simp [rowOf, Py.get_set]
  · intro h1 hnd j hj hj'
    unfold rowOf
    split
    · rename_i n; simp at h1
    · exact Py.get_update_zip _ varNames _ hnd j hj hj'

/-- without `shuffle`: the results as collected, the settings reported (to a flat run that asked for them) as run -/
theorem coreRunInfo_plain (leR : β → β → Bool) (σ : List Nat) (fl eg pa ig : Bool) (runSeq runExec : List α → List β)
    (settings : List α) :
    Gen.coreRunInfo leR σ false fl eg pa ig runSeq runExec settings
      = .ok ((if eg || pa then runExec else runSeq) settings, if ig && fl then settings else []) := by
  simp only [Gen.coreRunInfo, Gen.Default.coreRunInfo]
  cases eg <;> cases pa <;> cases ig <;> cases fl <;> rfl

/-- **shuffle**: the results are put back in enumeration order (`Core.runShuffled`) AND the settings reported for
labelling are put back the same way — for every index list within range, every way of running -/
theorem coreRunInfo_shuffled (leR : β → β → Bool) (f : α → β) (settings : List α) (σ : List Nat) (d : α)
    (fl eg pa ig : Bool) (hσ : ∀ i ∈ σ, i < settings.length) (hne : σ ≠ []) :
    Gen.coreRunInfo leR σ true fl eg pa ig (List.map f) (List.map f) settings
      = .ok (runShuffled f settings σ d, if ig && fl then runShuffled id settings σ d else []) := by
  have hz' := zip_applyPerm_ne_nil id settings σ d hne
  rw [List.map_id] at hz'
  simp only [Gen.coreRunInfo, Gen.Default.coreRunInfo, if_true, unzip_shuffled settings σ d hσ hne,
    unzip_sortedBack σ _ (zip_applyPerm_ne_nil f settings σ d hne), unzip_sortedBack σ _ hz']
  cases eg <;> cases pa <;> cases ig <;> cases fl <;> simp [runShuffled]

/-- so, for a permutation: results in enumeration order and the settings as enumerated -/
theorem coreRunInfo_perm (leR : β → β → Bool) (f : α → β) (settings : List α) (σ : List Nat)
    (fl eg pa ig : Bool) (hσ : σ ~ List.range settings.length) (hne : settings ≠ []) :
    Gen.coreRunInfo leR σ true fl eg pa ig (List.map f) (List.map f) settings
      = .ok (settings.map f, if ig && fl then settings else []) := by
  obtain ⟨d⟩ : Nonempty α := by cases settings with | nil => exact absurd rfl hne | cons a _ => exact ⟨a⟩
  obtain ⟨h1, h2⟩ := PyLoop.perm_range_spec hσ (by simpa using hne)
  rw [coreRunInfo_shuffled leR f settings σ d fl eg pa ig h1 h2, runShuffled_eq f settings σ d hσ,
    runShuffled_eq id settings σ d hσ]
  simp

/-- **DataFrame through the translated pieces**: the core run with `flat` and an `info` dict (what `combo_runner_to_ds`
asks for when `to_df`, see `Forwarding.combo_to_ds_forwards`), then `results_to_df` on the results and the settings
reported: row `i` is made of setting `i` and `f`'s value at setting `i`, whatever the shuffle permutation -/
theorem toDf_src (asCell : β → V) (outputs : β → List V) (leR : β → β → Bool) (f : List (String × V) → β)
    (settings : List (List (String × V))) (attrs resources : List (String × V)) (varNames : List String)
    (shuffle : Option (List Nat)) (eg pa : Bool)
    (hσ : ∀ σ, shuffle = some σ → σ ~ List.range settings.length) (hne : settings ≠ []) :
    (Gen.coreRunInfo leR (shuffle.getD []) shuffle.isSome true eg pa true (List.map f) (List.map f) settings).bind
        (fun ri => Gen.dfRows asCell outputs ri.1 ri.2 attrs resources varNames)
      = .ok (settings.map fun s => rowOf asCell outputs attrs resources varNames s (f s)) := by
  have hrun : Gen.coreRunInfo leR (shuffle.getD []) shuffle.isSome true eg pa true (List.map f) (List.map f) settings
      = .ok (settings.map f, settings) := by
    cases shuffle with
    | none => simp [coreRunInfo_plain]
    | some σ => simpa using coreRunInfo_perm leR f settings σ true eg pa true (hσ σ rfl) hne
  rw [hrun]
  show Gen.dfRows asCell outputs (settings.map f) settings attrs resources varNames = _
  rw [dfRows_refines, ← List.map_prod_left_eq_zip, List.map_map]
  rfl

/-- **the hand-written `ToDs.toDf` pairs the same things**: its row `i` holds location `i` and `f`'s outputs there, so
labelling its rows with `rowOf` gives what labelling the locations directly gives (`mk`, the setting built from a
location, is arbitrary here; for the translated pipeline it is `CoreRefine.mkKws`, by `coreEnum_refines`, and the rows are
those of `toDf_src`) -/
theorem toDf_refines (d : ToDs.Desc) (f : List Nat → List β) (nl : List β → List β) (s : Sweep) (st : Strategy)
    (hov : s.overlap = false) (hwf : st.WF s.locs.length)
    (asCell : List β → V) (outputs : List β → List V) (consts attrs resources : List (String × V)) (mk : List Nat → List (String × V)) :
    ∃ rows, ToDs.toDf d f nl s st = .ok rows ∧ rows.length = s.locs.length ∧
      (s.locs.map fun loc => rowOf asCell outputs attrs resources d.varNames (mk loc) (f loc))
        = rows.map fun r => rowOf asCell outputs attrs resources d.varNames (mk r.loc) r.outputs :=
  ⟨_, ToDs.toDf_eq d f nl s st hov hwf, by simp, by rw [List.map_map]; rfl⟩

/-- **tuple cases are zipped with the `fn_args` handed in** (for `run_cases`: the per-call ones when given —
`Forwarding.run_cases_fn_args`): case `c` becomes `dict(zip(fn_args, c))` -/
theorem casesZip_refines (fnArgs : List String) (cases : List (List V)) :
    Gen.casesZip fnArgs cases = cases.map fun c => Py.dictOfList (fnArgs.zip c) := by
  simp only [Gen.casesZip, Gen.Default.casesZip]

/-- argument `j` of the names handed in gets value `j` of the tuple -/
theorem casesZip_get (fnArgs : List String) (cases : List (List V)) (hnd : fnArgs.Nodup) (i : Nat) (hi : i < cases.length)
    (j : Nat) (hj : j < fnArgs.length) (hj' : j < cases[i].length) :
    ((Gen.casesZip fnArgs cases)[i]?).bind (fun row => Py.dictGet row fnArgs[j]) = some cases[i][j] := by
  rw [casesZip_refines, List.getElem?_map, List.getElem?_eq_getElem hi]
  exact Py.get_ofList_zip fnArgs cases[i] hnd j hj hj'

/-! Non-vacuity -/
example : Gen.dfRows (fun r : List Nat => r.sum) id [[10, 11], [20, 21]] [[("a", 1), ("big", 0)], [("a", 2), ("big", 0)]]
    [("note", 7)] [("big", 0)] ["u", "v"]
    = .ok [[("a", 1), ("note", 7), ("u", 10), ("v", 11)], [("a", 2), ("note", 7), ("u", 20), ("v", 21)]] := by rfl
example : Gen.dfRows (fun r : List Nat => r.sum) id [[10, 11]] [[("a", 1)]] [] [] ["u"] = .ok [[("a", 1), ("u", 21)]] := by rfl
example : Gen.coreRunInfo (fun _ _ => true) [2, 0, 1] true true false false true (List.map (· * 10)) (List.map (· * 10)) [5, 6, 7]
    = .ok ([50, 60, 70], [5, 6, 7]) := by
  have := coreRunInfo_perm (fun _ _ => true) (· * 10) [5, 6, 7] [2, 0, 1] true false false true (by decide) (by decide)
  simpa using this
example : Gen.casesZip ["a", "b"] [[1, 2], [3, 4]] = [[("a", 1), ("b", 2)], [("a", 3), ("b", 4)]] := by decide

end DfRefine
