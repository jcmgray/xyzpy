import XyzProofs.Props.C05
/-!
# C05 — whole histories of harvests

The file holds, at every point, the value decided by folding the overwrite policies over the history
(`c05_never_dropped`); `sync=False` is a deferred save (`c05_unsynced_block`); known finding F1 as a theorem about the
model (`c05_unsynced_then_synced_counterexample`).  The per-step facts these rest on are in `Props/C05.lean`.
-/
namespace Harvest
open DS StoreIO

/-- the specification state: the decided value of every point and the coordinates ever harvested -/
structure Spec where
  val : String → Pt → Option Tok
  coord : String → Coord → Prop

def Spec.empty : Spec := ⟨fun _ _ => none, fun _ _ => False⟩
def Spec.ofDs (d : Dataset) : Spec := ⟨d.get, fun dim c => c ∈ d.coordsOf dim⟩

def Spec.conflicts (D : Spec) (N : Dataset) : Prop :=
  ∃ n p x y, D.val n p = some x ∧ N.get n p = some y ∧ x ≠ y

open Classical in
/-- one harvest of new data `N` under policy `pol`, read directly off the property: a conflicting step under the
default policy changes nothing; otherwise the policy decides every point and the coordinates are joined -/
noncomputable def Spec.step (D : Spec) (N : Dataset) (pol : Policy) : Spec :=
  if pol = .none ∧ D.conflicts N then D
  else ⟨fun n p => policyValue pol (D.val n p) (N.get n p), fun d c => D.coord d c ∨ c ∈ N.coordsOf d⟩

/-- an optional dataset holds exactly what the specification state says -/
def Agrees (od : Option Dataset) (D : Spec) : Prop :=
  (∀ n p, oget od n p = D.val n p) ∧ (∀ d c, c ∈ ocoords od d ↔ D.coord d c)

theorem agrees_conflicts (od : Option Dataset) (D : Spec) (N : Dataset) (pol : Policy) (h : Agrees od D) :
    Conflicts od N pol ↔ (pol = .none ∧ D.conflicts N) := by
  unfold Conflicts Spec.conflicts
  simp only [h.1]

theorem agrees_step (od : Option Dataset) (D : Spec) (N M : Dataset) (pol : Policy) (h : Agrees od D)
    (hc : ¬ Conflicts od N pol)
    (hget : ∀ n p, M.get n p = policyValue pol (oget od n p) (N.get n p))
    (hco : ∀ d c, c ∈ M.coordsOf d ↔ c ∈ ocoords od d ∨ c ∈ N.coordsOf d) :
    Agrees (some M) (D.step N pol) := by
  unfold Spec.step
  rw [if_neg fun x => hc ((agrees_conflicts od D N pol h).mpr x)]
  constructor
  · intro n p; simp only [oget]; rw [hget, h.1]
  · intro d c; simp only [ocoords]; rw [hco, h.2]

theorem step_of_conflict (od : Option Dataset) (D : Spec) (N : Dataset) (pol : Policy) (h : Agrees od D)
    (hc : Conflicts od N pol) : D.step N pol = D := by
  unfold Spec.step
  rw [if_pos ((agrees_conflicts od D N pol h).mp hc)]

/-- the events of a history of harvests: a new Harvester object on some spelling of the data name, a synced harvest
(`harvest_combos` / `harvest_cases` / `add_ds`) by any existing object, a `save_merge_ds` call -/
inductive Ev where
  | newSession (name : String)
  | harvest (sid : Nat) (N : Dataset) (pol : Policy)
  | saveMerge (name : String) (N : Dataset) (pol : Policy)

def Ev.toStep : Ev → Step
  | .newSession name => .newSession name
  | .harvest sid N pol => .harvest sid N pol true
  | .saveMerge name N pol => .saveMerge name N pol

noncomputable def Spec.ev (D : Spec) : Ev → Spec
  | .newSession _ => D
  | .harvest _ N pol => D.step N pol
  | .saveMerge _ N pol => D.step N pol

/-- `decided h`: the value every point should hold after history `h` — an independent left fold of the policies -/
noncomputable def decided (h : List Ev) : Spec := h.foldl Spec.ev Spec.empty

/-- every harvest is performed by a Harvester object that exists at that time -/
def validFrom : Nat → List Ev → Prop
  | _, [] => True
  | k, .newSession _ :: r => validFrom (k + 1) r
  | k, .harvest sid _ _ :: r => sid < k ∧ validFrom k r
  | k, .saveMerge _ _ _ :: r => validFrom k r

/-- every spelling of the data name used in the history resolves to the path `P` -/
def namesOk (e : Engine) (P : String) (h : List Ev) : Prop :=
  ∀ ev ∈ h, match ev with
    | .newSession name => autoAddExt name e = P
    | .saveMerge name _ _ => autoAddExt name e = P
    | .harvest _ _ _ => True

/-- what a history maintains: every Harvester object resolves to the path `P` with engine `e`; the file at `P`, if
there is one, was written with `e`, and while there is none no object holds anything; the file holds `D` -/
structure Inv (e : Engine) (P : String) (st : St) (D : Spec) : Prop where
  sess : ∀ s ∈ st.sessions, autoAddExt s.name e = P ∧ s.engine = e
  eng : ∀ f, alookup st.store P = some f → f.engine = e
  fresh : alookup st.store P = none → ∀ s ∈ st.sessions, s.mem = none
  agrees : Agrees (fileDs st.store P) D

theorem preload_of_file (store : Store) (s : Session)
    (heng : ∀ f, alookup store (autoAddExt s.name s.engine) = some f → f.engine = s.engine)
    (hfresh : alookup store (autoAddExt s.name s.engine) = none → s.mem = none) :
    preload store s true = .ok { s with mem := fileDs store (autoAddExt s.name s.engine) } := by
  simp only [preload, loadFull, hvAccessPath_eq, hvIsfilePath_eq, if_true, shas, fileDs]
  cases hf : alookup store (autoAddExt s.name s.engine) with
  | none => simp [← hfresh hf]
  | some f => simp [(load_ok_iff _ _ _ _).mpr ⟨f, hf, heng f hf, rfl⟩]

theorem inv_harvest (e : Engine) (P : String) (st : St) (D : Spec) (sid : Nat) (N : Dataset) (pol : Policy)
    (hI : Inv e P st D) (hsid : sid < st.sessions.length) :
    Inv e P (addDs st sid N pol true).1 (D.step N pol) ∧
    (addDs st sid N pol true).1.sessions.length = st.sessions.length := by
  have hs : st.sessions[sid]? = some st.sessions[sid] := List.getElem?_eq_getElem hsid
  generalize st.sessions[sid] = s at hs
  have hmem : s ∈ st.sessions := List.mem_of_getElem? hs
  obtain ⟨hP, hE⟩ := hI.sess s hmem
  have hPs : autoAddExt s.name s.engine = P := by rw [hE, hP]
  -- the synced step first reloads the file: the merge is with what the file holds, whatever `s` held
  have hl := preload_of_file st.store s (by rw [hPs, hE]; exact hI.eng) (by rw [hPs]; exact fun h => hI.fresh h s hmem)
  rw [hPs] at hl
  obtain ⟨hA, hB⟩ := c05_step st sid s _ N pol true hs hl
  have hsess : ∀ m, ∀ s' ∈ st.sessions.set sid { s with mem := m }, autoAddExt s'.name e = P ∧ s'.engine = e := by
    intro m s' hs'
    rcases List.mem_or_eq_of_mem_set hs' with h | rfl
    · exact hI.sess s' h
    · exact ⟨hP, hE⟩
  generalize (addDs st sid N pol true).1 = st' at hA hB ⊢
  obtain ⟨store', sess'⟩ := st'
  by_cases hc : Conflicts (fileDs st.store P) N pol
  · obtain ⟨_, rfl, rfl⟩ := hA hc
    rw [step_of_conflict _ D N pol hI.agrees hc]
    refine ⟨⟨hsess _, hI.eng, fun hf s' hs' => ?_, hI.agrees⟩, List.length_set⟩
    rcases List.mem_or_eq_of_mem_set hs' with h | rfl
    · exact hI.fresh hf s' h
    · simp [fileDs, hf]
  · obtain ⟨M, _, rfl, hget, _, hco, hsync, _⟩ := hB hc
    obtain ⟨f', hf', hfe', hfd'⟩ := (load_ok_iff _ _ _ _).mp (hsync rfl).1
    rw [hPs] at hf'
    refine ⟨⟨hsess _, fun f hf => ?_, fun hf => ?_, ?_⟩, List.length_set⟩
    · rw [hf'] at hf; cases hf; rw [hfe', hE]
    · rw [hf'] at hf; cases hf
    · rw [fileDs, hf', Option.map_some, hfd']
      exact agrees_step _ D N M pol hI.agrees hc hget hco

theorem inv_saveMerge (e : Engine) (P : String) (st : St) (D : Spec) (name : String) (N : Dataset) (pol : Policy)
    (hI : Inv e P st D) (hname : autoAddExt name e = P) :
    Inv e P { st with store := (saveMerge st.store name e N pol).1 } (D.step N pol) := by
  obtain ⟨hA, hB⟩ := c05_save_merge_step st.store name e N pol (by rw [hname]; exact hI.eng)
  rw [hname] at hA hB
  by_cases hc : Conflicts (fileDs st.store P) N pol
  · rw [step_of_conflict _ D N pol hI.agrees hc, (hA hc).2]
    exact hI
  · obtain ⟨M, _, hfile, hget, hco, _⟩ := hB hc
    refine ⟨hI.sess, fun f hf => ?_, fun hf => ?_, ?_⟩
    · rw [hfile] at hf; cases hf; rfl
    · rw [hfile] at hf; cases hf
    · simp only [fileDs, hfile, Option.map_some]
      exact agrees_step _ D N M pol hI.agrees hc hget hco

theorem inv_run (e : Engine) (P : String) (evs : List Ev) :
    ∀ (st : St) (D : Spec), Inv e P st D → validFrom st.sessions.length evs → namesOk e P evs →
      Inv e P (run e st (evs.map Ev.toStep)) (evs.foldl Spec.ev D) := by
  induction evs with
  | nil => intro st D hI _ _; exact hI
  | cons ev r ih =>
    intro st D hI hv hn
    have hev := hn ev (List.mem_cons_self ..)
    refine ih _ _ ?_ ?_ fun x hx => hn x (List.mem_cons_of_mem _ hx)
    · cases ev with
      | newSession name =>
        have hnew : ∀ s ∈ (newSession st name e).sessions, s ∈ st.sessions ∨ s = { name := name, engine := e } := by
          simp [newSession]
        refine ⟨fun s hs => ?_, hI.eng, fun hf s hs => ?_, hI.agrees⟩
        · rcases hnew s hs with h | rfl
          · exact hI.sess s h
          · exact ⟨hev, rfl⟩
        · rcases hnew s hs with h | rfl
          · exact hI.fresh hf s h
          · rfl
      | harvest sid N pol => exact (inv_harvest e P st D sid N pol hI hv.1).1
      | saveMerge name N pol => exact inv_saveMerge e P st D name N pol hI hev
    · cases ev with
      | newSession name => simpa [Ev.toStep, step, newSession, validFrom] using hv
      | harvest sid N pol =>
        have := (inv_harvest e P st D sid N pol hI hv.1).2
        simpa [Ev.toStep, step, this] using hv.2
      | saveMerge name N pol => simpa [Ev.toStep, step, validFrom] using hv

/-- a decided value never disappears: harvesting other points (or the same point again) never drops a point -/
theorem step_keeps (D : Spec) (N : Dataset) (pol : Policy) (n : String) (p : Pt) (h : (D.val n p).isSome) :
    ((D.step N pol).val n p).isSome := by
  unfold Spec.step
  split
  · exact h
  · cases hd : D.val n p with
    | none => rw [hd] at h; cases h
    | some t => cases pol <;> cases hN : N.get n p <;> simp [policyValue, hd, hN]

/-- … and only `overwrite=True` can change it -/
theorem step_unaltered (D : Spec) (N : Dataset) (pol : Policy) (n : String) (p : Pt) (t : Tok)
    (h : D.val n p = some t) (hpol : pol ≠ .overwrite) : (D.step N pol).val n p = some t := by
  unfold Spec.step
  split
  · exact h
  · show policyValue pol (D.val n p) (N.get n p) = some t
    rw [h]
    cases pol with
    | overwrite => exact absurd rfl hpol
    | _ => rfl

/-- **never dropped, never altered except by the policy**: for every history of new Harvester objects (any spelling of
the data name that resolves to the data path `P`), synced harvests by any of the objects — stale or not — with any
policy, and `save_merge_ds` calls: the file at `P` holds, at every point, exactly the value `decided h` obtained by
folding the overwrite policies over the history (so every point that was ever given a value is present with the
decided value, every coordinate ever harvested is a coordinate of the file, and nothing else appears) -/
theorem c05_never_dropped (e : Engine) (P : String) (h : List Ev) (hv : validFrom 0 h) (hn : namesOk e P h) :
    (∀ n p t, (decided h).val n p = some t →
        ∃ f, alookup (run e {} (h.map Ev.toStep)).store P = some f ∧ f.engine = e ∧ f.ds.get n p = some t) ∧
    (∀ d c, (decided h).coord d c →
        ∃ f, alookup (run e {} (h.map Ev.toStep)).store P = some f ∧ c ∈ f.ds.coordsOf d) ∧
    (∀ f, alookup (run e {} (h.map Ev.toStep)).store P = some f →
        (∀ n p, f.ds.get n p = (decided h).val n p) ∧ (∀ d c, c ∈ f.ds.coordsOf d ↔ (decided h).coord d c)) := by
  have hI0 : Inv e P ({} : St) Spec.empty :=
    ⟨by simp, by simp [alookup], by simp, fun _ _ => rfl, by simp [fileDs, alookup, ocoords, Spec.empty]⟩
  obtain ⟨_, heng, _, hval, hco⟩ := inv_run e P h {} Spec.empty hI0 (by simpa using hv) hn
  unfold fileDs at hval hco
  unfold decided
  cases hf : alookup (run e {} (h.map Ev.toStep)).store P with
  | none =>
    rw [hf] at hval hco
    refine ⟨fun n p t ht => ?_, fun d c hc => ?_, by simp⟩
    · rw [← hval n p] at ht; cases ht
    · simpa [ocoords] using (hco d c).mpr hc
  | some f =>
    rw [hf] at hval hco
    exact ⟨fun n p t ht => ⟨f, rfl, heng f hf, (hval n p).trans ht⟩, fun d c hc => ⟨f, rfl, (hco d c).mpr hc⟩,
      fun f' hf' => by cases hf'; exact ⟨hval, hco⟩⟩

noncomputable def foldBlock (D : Spec) (block : List (Dataset × Policy)) : Spec :=
  block.foldl (fun D b => D.step b.1 b.2) D

theorem run_cons (e : Engine) (st : St) (x : Step) (r : List Step) : run e st (x :: r) = run e (step e st x).1 r := rfl
theorem run_nil (e : Engine) (st : St) : run e st [] = st := rfl
theorem run_append (e : Engine) (st : St) (a b : List Step) : run e st (a ++ b) = run e (run e st a) b := by
  simp [run, List.foldl_append]
theorem step_harvest (e : Engine) (st : St) (sid : Nat) (N : Dataset) (pol : Policy) (sync : Bool) :
    step e st (.harvest sid N pol sync) = addDs st sid N pol sync := rfl
theorem step_flush (e : Engine) (st : St) (sid : Nat) : step e st (.flush sid) = flush st sid := rfl
theorem foldBlock_cons (D : Spec) (b : Dataset × Policy) (r : List (Dataset × Policy)) :
    foldBlock D (b :: r) = foldBlock (D.step b.1 b.2) r := rfl

theorem unsynced_steps (e : Engine) (sid : Nat) (block : List (Dataset × Policy)) :
    ∀ (st : St) (s : Session) (d : Dataset) (D : Spec), st.sessions[sid]? = some s → s.mem = some d →
      Agrees (some d) D →
      ∃ s' d', (run e st (block.map fun b => Step.harvest sid b.1 b.2 false)).sessions[sid]? = some s' ∧
        s'.name = s.name ∧ s'.engine = s.engine ∧ s'.mem = some d' ∧ Agrees (some d') (foldBlock D block) ∧
        (run e st (block.map fun b => Step.harvest sid b.1 b.2 false)).store = st.store := by
  induction block with
  | nil => intro st s d D hs hm hag; exact ⟨s, d, hs, rfl, rfl, hm, hag, rfl⟩
  | cons b r ih =>
    intro st s d D hs hm hag
    simp only [List.map_cons, run_cons, step_harvest, foldBlock_cons]
    obtain ⟨hA, hB⟩ := c05_step st sid s s b.1 b.2 false hs (by simp [preload])
    rw [hm] at hA hB
    by_cases hc : Conflicts (some d) b.1 b.2
    · obtain ⟨_, hst, hsess⟩ := hA hc
      have hs1 : (addDs st sid b.1 b.2 false).1.sessions[sid]? = some s := by rw [hsess]; exact set_get _ _ _ _ hs
      obtain ⟨s', d', h1, h2, h3, h4, h5, h6⟩ := ih (addDs st sid b.1 b.2 false).1 s d D hs1 hm hag
      rw [step_of_conflict _ D b.1 b.2 hag hc]
      exact ⟨s', d', h1, h2, h3, h4, h5, by rw [h6, hst]⟩
    · obtain ⟨M, _, hsess, hget, _, hco, _, hns⟩ := hB hc
      have hs1 : (addDs st sid b.1 b.2 false).1.sessions[sid]? = some { s with mem := some M } := by
        rw [hsess]; exact set_get _ _ _ _ hs
      obtain ⟨s', d', h1, h2, h3, h4, h5, h6⟩ :=
        ih (addDs st sid b.1 b.2 false).1 { s with mem := some M } M (D.step b.1 b.2) hs1 rfl
          (agrees_step _ D b.1 M b.2 hag hc hget hco)
      exact ⟨s', d', h1, h2, h3, h4, h5, by rw [h6, hns rfl]⟩

/-- **sync=False is a deferred save**: for a Harvester holding dataset `d0`, any block of unsynced harvests followed
by `save_full_ds()` leaves in memory and on disk one dataset that holds, at every point, the value obtained by folding
the policies over the block starting from `d0` (the same fold that synced harvests realise step by step) -/
theorem c05_unsynced_block (e : Engine) (st : St) (sid : Nat) (s : Session) (d0 : Dataset)
    (block : List (Dataset × Policy)) (hs : st.sessions[sid]? = some s) (hm : s.mem = some d0) :
    ∃ M s', (run e st ((block.map fun b => Step.harvest sid b.1 b.2 false) ++ [.flush sid])).sessions[sid]? = some s' ∧
      s'.mem = some M ∧
      load (run e st ((block.map fun b => Step.harvest sid b.1 b.2 false) ++ [.flush sid])).store s.name s.engine = .ok M ∧
      Agrees (some M) (foldBlock (Spec.ofDs d0) block) := by
  have hag0 : Agrees (some d0) (Spec.ofDs d0) := ⟨fun _ _ => rfl, fun _ _ => Iff.rfl⟩
  obtain ⟨s', d', h1, h2, h3, h4, h5, _⟩ := unsynced_steps e sid block st s d0 _ hs hm hag0
  simp only [run_append, run_cons, run_nil, step_flush]
  simp only [flush, h1, h4]
  refine ⟨coerceAttrs s'.engine d', _, set_get _ _ _ _ h1, rfl, ?_, ?_⟩
  · rw [← h2, ← h3, load_save, coerceAttrs_idem]
  · constructor
    · intro n p; simp only [oget, get_coerceAttrs]; exact h5.1 n p
    · intro d c; simp only [ocoords, coordsOf_coerceAttrs]; exact h5.2 d c

/-- what happens without the save in between: for a Harvester in sync with its file (`d0` in memory and on disk),
an unsynced harvest of `N1` followed by a synced harvest of `N2`: a point that only `N1` provided is in memory after
the first step and gone — from memory and from disk — after the second (the synced step reloads the file) -/
theorem unsynced_then_synced_drops (st : St) (sid : Nat) (s : Session) (d0 N1 N2 : Dataset) (pol1 pol2 : Policy)
    (hs : st.sessions[sid]? = some s) (hm : s.mem = some d0)
    (hfile : alookup st.store (autoAddExt s.name s.engine) = some ⟨s.engine, d0⟩)
    (hc1 : ¬ Conflicts (some d0) N1 pol1) (hc2 : ¬ Conflicts (some d0) N2 pol2)
    (n : String) (p : Pt) (t : Tok) (h1 : N1.get n p = some t) (h0 : d0.get n p = none) (h2 : N2.get n p = none) :
    (∃ s1 M1, (addDs st sid N1 pol1 false).1.sessions[sid]? = some s1 ∧ s1.mem = some M1 ∧ M1.get n p = some t) ∧
    (∃ s2 M2, (addDs (addDs st sid N1 pol1 false).1 sid N2 pol2 true).1.sessions[sid]? = some s2 ∧
        s2.mem = some M2 ∧ M2.get n p = none ∧
        load (addDs (addDs st sid N1 pol1 false).1 sid N2 pol2 true).1.store s.name s.engine = .ok M2) := by
  obtain ⟨_, hB⟩ := c05_step st sid s s N1 pol1 false hs (by simp [preload])
  rw [hm] at hB
  obtain ⟨M1, _, hsess, hget, _, _, _, hns⟩ := hB hc1
  have hs1 : (addDs st sid N1 pol1 false).1.sessions[sid]? = some { s with mem := some M1 } := by
    rw [hsess]; exact set_get _ _ _ _ hs
  have hM1 : M1.get n p = some t := by
    rw [hget, h1]; simp only [oget, h0]; cases pol1 <;> rfl
  refine ⟨⟨_, M1, hs1, rfl, hM1⟩, ?_⟩
  have hstore : (addDs st sid N1 pol1 false).1.store = st.store := hns rfl
  have hload : load st.store s.name s.engine = .ok d0 := (load_ok_iff _ _ _ _).mpr ⟨_, hfile, rfl, rfl⟩
  have hl2 : preload (addDs st sid N1 pol1 false).1.store { s with mem := some M1 } true
      = .ok { s with mem := some d0 } := by
    simp [preload, loadFull, shas, hstore, hfile, hload]
  obtain ⟨_, hB2⟩ := c05_step _ sid _ _ N2 pol2 true hs1 hl2
  obtain ⟨M2, _, hsess2, hget2, _, _, hsync, _⟩ := hB2 hc2
  refine ⟨_, M2, by rw [hsess2]; exact set_get _ _ _ _ hs1, rfl, ?_, (hsync rfl).1⟩
  rw [hget2, h2]; simp only [oget, h0]; cases pol2 <;> rfl

/-- **F1 (known finding) as a theorem about the model**: there is a state with one Harvester in sync with its file,
and two harvests of disjoint points — the first with `sync=False`, the second with `sync=True` — after which the
point harvested first is neither in memory nor on disk. This is why `c05_never_dropped` ranges over synced harvests
and `c05_unsynced_block` requires the save before the next synced step. -/
theorem c05_unsynced_then_synced_counterexample (e : Engine) (name var dim : String) :
    ∃ (st : St) (N1 N2 : Dataset) (p : Pt) (t : Tok) (s : Session),
      st.sessions[0]? = some s ∧ s.mem = some {} ∧ load st.store name e = .ok {} ∧
      N1.get var p = some t ∧
      (∃ s1 M1, (addDs st 0 N1 .none false).1.sessions[0]? = some s1 ∧ s1.mem = some M1 ∧ M1.get var p = some t) ∧
      (∃ s2 M2, (addDs (addDs st 0 N1 .none false).1 0 N2 .none true).1.sessions[0]? = some s2 ∧
          s2.mem = some M2 ∧ M2.get var p = none ∧
          load (addDs (addDs st 0 N1 .none false).1 0 N2 .none true).1.store name e = .ok M2) := by
  let s : Session := { name := name, engine := e, mem := some {} }
  let st : St := { store := [(autoAddExt name e, ⟨e, {}⟩)], sessions := [s] }
  let N1 : Dataset := { coords := [(dim, [1])], vars := [(var, { dims := [dim], cells := [([(dim, 1)], .v 7)] })] }
  let N2 : Dataset := { coords := [(dim, [2])], vars := [(var, { dims := [dim], cells := [([(dim, 2)], .v 8)] })] }
  have hfile : alookup st.store (autoAddExt s.name s.engine) = some ⟨s.engine, {}⟩ := by simp [st, s, alookup]
  have hnc : ∀ N pol, ¬ Conflicts (some ({} : Dataset)) N pol := by
    rintro N pol ⟨_, n, p, x, y, h1, _⟩
    simp [oget, Dataset.get_empty] at h1
  have h1 : N1.get var [(dim, 1)] = some (.v 7) := by
    simp [N1, Dataset.get, Dataset.cellsOf, alookup, cget]
  have h2 : N2.get var [(dim, 1)] = none := by
    simp [N2, Dataset.get, Dataset.cellsOf, alookup, cget]
  obtain ⟨hA, hB⟩ := unsynced_then_synced_drops st 0 s {} N1 N2 .none .none rfl rfl hfile (hnc _ _) (hnc _ _)
    var [(dim, 1)] (.v 7) h1 rfl h2
  exact ⟨st, N1, N2, [(dim, 1)], .v 7, s, rfl, rfl, (load_ok_iff _ _ _ _).mpr ⟨_, hfile, rfl, rfl⟩, h1, hA, hB⟩

/-! ## Non-vacuity -/

-- `decided` is not constant: one harvest of `exOld` decides its points
example : (decided [.newSession "h1", .harvest 0 exOld .none]).val "x" [("a", 1)] = some (.v 11) := by
  have hnc : ¬ (Policy.none = Policy.none ∧ Spec.empty.conflicts exOld) := by
    rintro ⟨_, n, p, x, y, h1, _⟩; cases h1
  simp only [decided, List.foldl_cons, List.foldl_nil, Spec.ev, Spec.step, if_neg hnc]
  simp [policyValue, Spec.empty, exOld, Dataset.get, Dataset.cellsOf, alookup, cget]
-- the hypotheses of `c05_never_dropped` are satisfiable
example : validFrom 0 [.newSession "h1", .harvest 0 exOld .none, .newSession "h1.h5", .harvest 1 exNew .keep] := by
  simp [validFrom]


end Harvest
