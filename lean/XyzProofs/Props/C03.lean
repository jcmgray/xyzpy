import XyzProofs.Lemmas.Core
import XyzModel.ToDs
/-!
# C03 — labelled outputs name every number correctly (Dataset and DataFrame)
-/
namespace ToDs
open Core List
variable {β : Type}

/-- `combo_runner_to_ds` on a well-formed request, in closed form: variable `j` is the nesting of output `j` -/
theorem toDs_eq (d : Desc) (f : List Nat → List β) (dfl : β) (nl : β → β) (s : Sweep) (st : Strategy)
    (hov : s.overlap = false) (hwf : st.WF s.locs.length) :
    toDs d f dfl nl s st = .ok (resultsToDs d s ((List.range d.outputs.length).map fun j =>
      processNested s (s.locs.map fun loc => (f loc).getD j dfl) (nl ((f (s.locs.headD [])).getD j dfl)))) := by
  unfold toDs
  simp only [coreSplit_eq _ f dfl nl s st hov hwf, List.map_map]
  rfl

/-- **dimensions and coordinates**: each swept argument is a dimension whose coordinate is exactly the values swept
(given order for grids, sorted union for cases — `Sweep.coords`, see `c02_coords_union`), and every variable carries
the swept dimensions followed by its declared internal dimensions -/
theorem c03_dims_coords (d : Desc) (s : Sweep) (arrays : List (Nest β)) :
    (resultsToDs d s arrays).dims = s.fnArgs.zip s.coords ∧
    ∀ v ∈ (resultsToDs d s arrays).vars, ∃ o ∈ d.outputs, v.name = o.1 ∧ v.dims = s.fnArgs ++ o.2 := by
  refine ⟨rfl, ?_⟩
  intro v hv
  simp only [resultsToDs, List.mem_map] at hv
  obtain ⟨⟨o, a⟩, hmem, rfl⟩ := hv
  exact ⟨o, (List.of_mem_zip hmem).1, rfl, rfl⟩

/-- **selecting by label returns what the function returned there**: variable `j` of the dataset, read at the index
path that picks the coordinate values `p`, is output `j` of `f` at `p` if `p` was evaluated, else the placeholder -/
theorem c03_sel (d : Desc) (f : List Nat → List β) (dfl : β) (nl : β → β) (s : Sweep) (st : Strategy)
    (hov : s.overlap = false) (hwf : st.WF s.locs.length)
    (first : List Nat) (rest : List (List Nat)) (hne : s.locs = first :: rest)
    (j : Nat) (o : String × List String) (ho : d.outputs[j]? = some o)
    (idx p : List Nat) (hp : pick s.coords idx = some p) :
    ∃ ds v, toDs d f dfl nl s st = .ok ds ∧ ds.vars[j]? = some v ∧ v.name = o.1 ∧ v.dims = s.fnArgs ++ o.2 ∧
      v.data.get idx = some (.leaf (if p ∈ s.locs then (f p).getD j dfl else nl ((f first).getD j dfl))) := by
  have hjk : j < d.outputs.length := (List.getElem?_eq_some_iff.mp ho).1
  have hds := toDs_eq d f dfl nl s st hov hwf
  rw [show s.locs.headD [] = first by rw [hne]; rfl] at hds
  refine ⟨_, ⟨o.1, s.fnArgs ++ o.2, _⟩, hds, ?_, rfl, rfl,
    processNested_get s (fun loc => (f loc).getD j dfl) _ idx p hp⟩
  · -- variable `j` pairs output `j` with array `j`
    have harr : ∀ g : Nat → Nest β, ((List.range d.outputs.length).map g)[j]? = some (g j) := fun g => by
      rw [List.getElem?_map, List.getElem?_range hjk]
      rfl
    simp only [resultsToDs, List.getElem?_map]
    rw [(List.getElem?_zip_eq_some (z := (o, _))).mpr ⟨ho, harr _⟩]
    rfl

/-- **constants, resources, attributes**: a constant is a coordinate if it names a dimension, else an attribute;
extra attributes are kept; a resource (that is not also given as constant/attribute/coordinate) is recorded nowhere -/
theorem c03_constants_resources_attrs (d : Desc) (s : Sweep) (arrays : List (Nest β)) (k : String) :
    (k ∈ (resultsToDs d s arrays).attrs ↔ k ∈ d.attrs ∨ (k ∈ d.constants ∧ isDim d s k = false)) ∧
    (k ∈ (resultsToDs d s arrays).extraCoords ↔ k ∈ d.varCoords ∨ (k ∈ d.constants ∧ isDim d s k = true)) ∧
    (k ∈ d.resources → k ∉ d.constants → k ∉ d.attrs → k ∉ d.varCoords →
      k ∉ (resultsToDs d s arrays).attrs ∧ k ∉ (resultsToDs d s arrays).extraCoords) := by
  refine ⟨?_, ?_, ?_⟩
  · simp [resultsToDs, List.mem_filter]
  · simp [resultsToDs, List.mem_filter]
  · intro _ h1 h2 h3
    simp [resultsToDs, List.mem_filter, h1, h2, h3]

/-- `combo_runner_to_ds(..., to_df=True)` on a well-formed request, in closed form: one row per location, in
enumeration order, with `f`'s outputs there -/
theorem toDf_eq (d : Desc) (f : List Nat → List β) (nl : List β → List β) (s : Sweep) (st : Strategy)
    (hov : s.overlap = false) (hwf : st.WF s.locs.length) :
    toDf d f nl s st = .ok (s.locs.map fun loc => { loc := loc, extra := d.constants ++ d.attrs, outputs := f loc }) := by
  unfold toDf
  rw [core_eq f nl s st hov hwf]
  simp only [← List.map_prod_left_eq_zip, List.map_map]
  rfl

/-- **DataFrame rows**: one row per evaluated setting, in enumeration order; row `i` pairs setting `i`'s argument
values with setting `i`'s own outputs — for every shuffle permutation and executor order -/
theorem c03_df_rows (d : Desc) (f : List Nat → List β) (nl : List β → List β) (s : Sweep) (st : Strategy)
    (hov : s.overlap = false) (hwf : st.WF s.locs.length) :
    ∃ rows, toDf d f nl s st = .ok rows ∧ rows.length = s.locs.length ∧
      ∀ i (hi : i < s.locs.length), ∃ row, rows[i]? = some row ∧ row.loc = s.locs[i] ∧ row.outputs = f s.locs[i] ∧
        row.extra = d.constants ++ d.attrs :=
  ⟨_, toDf_eq d f nl s st hov hwf, by simp, fun i hi =>
    ⟨_, by rw [List.getElem?_map, List.getElem?_eq_getElem hi]; rfl, rfl, rfl, rfl⟩⟩

/-! Non-vacuity -/
def exDesc : Desc := { varNames := ["u", "v"], varDims := [[], ["t"]], varCoords := [], constants := ["t", "k"],
                       resources := ["big"], attrs := ["note"] }
example : isDim exDesc Core.exSweep "t" = true ∧ isDim exDesc Core.exSweep "k" = false := by decide
example : (resultsToDs exDesc Core.exSweep ([] : List (Nest Nat))).attrs = ["note", "k"] := by decide

end ToDs
