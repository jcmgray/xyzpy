import XyzProofs.Props.C14
/-!
# C14 — the bodies of `save_ds`, `load_ds`, `save_df`, `load_df` as translated from the source

`Gen.saveDs`, `Gen.loadDs`, `Gen.saveDf`, `Gen.loadDf` are regenerated on every run from xyzpy/manage.py
(harness/anchors_storeio.py): the whole body of each function, as a function of what the body looks at (the engine string,
the attribute values through `Gen.AttrOps`, per variable `Gen.VarEnc`, whether the file exists, `load_to_mem` / `chunks` /
`create_new`), returning the ONE writer / reader call the body ends with (`Gen.SaveCall`, `Gen.LoadOutcome`, `Gen.DfCall`).
-/
namespace StoreIO
open DS Gen

/-- what the three sequential `if val is …` statements leave in `ds.attrs[attr]` -/
def attrRewrite {A : Type} (a : AttrOps A) (v : A) : A :=
  if a.isFalse v then a.str "False" else if a.isTrue v then a.str "True" else if a.isNone v then a.str "None" else v

/-- the stale-`dtype` rule: the stored dtype is dropped iff there is one, it differs from the data's dtype, and the
variable is not packed (`scale_factor` / `add_offset`) -/
def staleDtype (v : VarEnc) : Bool :=
  v.encDtype.isSome && (npDtype v.encDtype != v.dtype) && !v.hasScale && !v.hasOffset

/-- the three identity tests are about three different objects: at most one of them holds.  `saveDs_spec` needs this only
when the source spells the three tests as an `if … elif … elif` chain (first test wins) instead of three `if`s (last wins) -/
def _root_.Gen.AttrOps.Exclusive {A : Type} (a : AttrOps A) : Prop :=
  ∀ v, (a.isNone v = true → a.isTrue v = false ∧ a.isFalse v = false) ∧ (a.isTrue v = true → a.isFalse v = false)

/-- **`save_ds` as translated, in closed form** — for every engine string, attribute type, variable list:
one writer call, on the name with the extension; joblib → `joblib.dump`, zarr → `to_zarr`, anything else →
`to_netcdf(engine=engine)`; the attributes are rewritten only for engines other than joblib / zarr; the stale-dtype rule
and `invalid_netcdf` (set for complex data unless the caller gave it) only concern the netCDF writer -/
theorem saveDs_spec {A : Type} (a : AttrOps A) (hx : a.Exclusive) (ext : String → String → String) (name engine : String)
    (attrs : List (String × A)) (vars : List VarEnc) (kw : Option Bool) :
    Gen.saveDs a ext name engine attrs vars kw = some
      { writer := if engine = "joblib" then .joblibDump else if engine = "zarr" then .toZarr
          else .toNetcdf engine (if vars.any (·.isComplex) then some (kw.getD true) else kw)
        path := ext name engine
        attrs := if engine = "joblib" ∨ engine = "zarr" then attrs else attrs.map fun kv => (kv.1, attrRewrite a kv.2)
        dropDtype := if engine = "joblib" ∨ engine = "zarr" then vars.map (fun _ => false) else vars.map staleDtype } := by
  by_cases hj : engine = "joblib"
  · subst hj
    simp [Gen.saveDs, Gen.Default.saveDs]
  · by_cases hz : engine = "zarr"
    · subst hz
      simp [Gen.saveDs, Gen.Default.saveDs]
    · simp only [Gen.saveDs, Gen.Default.saveDs, hj, hz, decide_false, Bool.or_self, Bool.not_false, if_true,
        Bool.false_eq_true, if_false, or_self]
      refine congrArg some ?_
      -- the two records agree field by field except, at most, in `attrs` (the loop body): `congr 1` leaves that field or
      -- nothing, and the loop body is compared with the closed form by cases on the three tests
      congr 1 <;>
        (apply List.map_congr_left
         intro kv _
         simp only [attrRewrite]
         have hv := hx kv.2
         cases h1 : a.isNone kv.2 <;> cases h2 : a.isTrue kv.2 <;> cases h3 : a.isFalse kv.2 <;> simp_all)

/-- the attribute values of the model as Python objects: `is` is identity with the singletons, `==` also holds for the
numbers equal to a bool -/
def attrOps : AttrOps Attr where
  isNone := fun v => v == .none
  isTrue := fun v => v == .bool true
  isFalse := fun v => v == .bool false
  eqNone := fun v => v == .none
  eqTrue := fun v => v == .bool true || v == .int 1 || v == .num "1.0"
  eqFalse := fun v => v == .bool false || v == .int 0 || v == .num "0.0" || v == .num "-0.0"
  str := .str

theorem attrOps_exclusive : attrOps.Exclusive := by
  intro v; cases v <;> simp [attrOps]

theorem attrRewrite_coerceAttr (v : Attr) : attrRewrite attrOps v = coerceAttr v := by
  cases v with
  | bool b => cases b <;> simp [attrRewrite, attrOps, coerceAttr, Gen.attrTrueStr, Gen.Default.attrTrueStr,
      Gen.attrFalseStr, Gen.Default.attrFalseStr]
  | none => simp [attrRewrite, attrOps, coerceAttr, Gen.attrNoneStr, Gen.Default.attrNoneStr]
  | _ => simp [attrRewrite, attrOps, coerceAttr]

/-- **the attribute loop of `save_ds` as translated IS `StoreIO.coerceAttrs`** (and the path the writer is given is the
name with the extension): for every engine and dataset -/
theorem saveDs_attrs_refines (ext : String → String → String) (name : String) (e : Engine) (d : Dataset)
    (vars : List VarEnc) (kw : Option Bool) :
    ∃ c, Gen.saveDs attrOps ext name e.key d.attrs vars kw = some c ∧ c.attrs = (coerceAttrs e d).attrs ∧
      c.path = ext name e.key := by
  refine ⟨_, saveDs_spec _ attrOps_exclusive _ _ _ _ _ _, ?_, rfl⟩
  obtain ⟨⟨h1, h2, h3, h4⟩, _, h⟩ := c14_attr_rule
  rw [(h e d).2.2]
  cases e <;> simp [Engine.key, h1, h2, h3, h4, attrRewrite_coerceAttr]

/-- **identity, not equality**: numbers equal to a bool are attributes like any other — only the objects `None`, `True`,
`False` are rewritten, and only for the netCDF engines -/
theorem saveDs_keeps_numbers (ext : String → String → String) (name engine : String) (vars : List VarEnc) (kw : Option Bool) :
    ∃ c, Gen.saveDs attrOps ext name engine
        [("a", .int 1), ("b", .int 0), ("c", .num "1.0"), ("d", .none), ("e", .bool true), ("f", .bool false)] vars kw = some c ∧
      c.attrs = if engine = "joblib" ∨ engine = "zarr"
        then [("a", .int 1), ("b", .int 0), ("c", .num "1.0"), ("d", .none), ("e", .bool true), ("f", .bool false)]
        else [("a", .int 1), ("b", .int 0), ("c", .num "1.0"), ("d", .str "None"), ("e", .str "True"), ("f", .str "False")] := by
  refine ⟨_, saveDs_spec _ attrOps_exclusive _ _ _ _ _ _, ?_⟩
  simp only []
  split
  · rfl
  · simp [attrRewrite, attrOps]

/-- engine dispatch at the four engines, and D20's rule at the netCDF engines -/
theorem saveDs_writers {A : Type} (a : AttrOps A) (hx : a.Exclusive) (ext : String → String → String) (name : String)
    (attrs : List (String × A)) (vars : List VarEnc) (kw : Option Bool) :
    ((Gen.saveDs a ext name "joblib" attrs vars kw).map (·.writer) = some .joblibDump) ∧
    ((Gen.saveDs a ext name "zarr" attrs vars kw).map (·.writer) = some .toZarr) ∧
    ((Gen.saveDs a ext name "h5netcdf" attrs vars kw).map (·.writer) =
        some (.toNetcdf "h5netcdf" (if vars.any (·.isComplex) then some (kw.getD true) else kw))) ∧
    ((Gen.saveDs a ext name "netcdf4" attrs vars kw).map (·.writer) =
        some (.toNetcdf "netcdf4" (if vars.any (·.isComplex) then some (kw.getD true) else kw))) ∧
    ((Gen.saveDs a ext name "h5netcdf" attrs vars kw).map (·.dropDtype) = some (vars.map staleDtype)) ∧
    ((Gen.saveDs a ext name "joblib" attrs vars kw).map (·.dropDtype) = some (vars.map fun _ => false)) := by
  simp [saveDs_spec a hx]

-- non-vacuity of the stale-dtype rule: a grown string coordinate and a packed variable
example : [({ encDtype := some "<U1", dtype := "<U4" } : VarEnc), { encDtype := some "int16", dtype := "float64", hasScale := true },
    { encDtype := some "int64", dtype := "int64" }, { dtype := "float64" }].map staleDtype = [true, false, false, false] := by
  simp [staleDtype, npDtype]

/-- **`load_ds` as translated, in closed form** — for every engine string: the empty dataset iff `create_new` and the
file (name with extension) is absent; joblib → `joblib.load`; `load_to_mem=True` together with `chunks` is a ValueError;
else zarr → `open_zarr`, anything else → `open_dataset(engine=engine)` (h5netcdf: retried once with netcdf4 on the
AttributeError of old files), `chunks` handed on; the data are loaded and the file closed iff neither `load_to_mem` nor
`chunks` was given -/
theorem loadDs_spec {C : Type} (ext : String → String → String) (ex : String → Bool) (name engine : String)
    (ltm : Option Bool) (cn : Bool) (chunks : Option C) :
    Gen.loadDs ext ex name engine ltm cn chunks =
      if !ex (ext name engine) && cn then .empty
      else if engine = "joblib" then .read ⟨.joblibLoad, ext name engine, false, false⟩
      else if ltm = some true ∧ chunks.isSome then .raise .valueError
      else .read ⟨if engine = "zarr" then .openZarr
                    else .openDataset engine (if engine = "h5netcdf" then some "netcdf4" else none),
                  ext name engine, true, ltm.isNone && chunks.isNone⟩ := by
  simp only [Gen.loadDs, Gen.Default.loadDs]
  -- by cases on everything the body tests (so the order / nesting of the tests in the source does not matter)
  by_cases h1 : (!ex (ext name engine) && cn) = true
  · simp [h1]
  · by_cases hj : engine = "joblib"
    · simp [h1, hj]
    · by_cases hz : engine = "zarr" <;> rcases ltm with _ | _ | _ <;> cases chunks <;> simp [h1, hj, hz]

theorem ite_chain_cases {α : Type} {c₁ c₂ c₃ : Prop} [Decidable c₁] [Decidable c₂] [Decidable c₃] {a b c d r : α}
    (hr : (if c₁ then a else if c₂ then b else if c₃ then c else d) = r) :
    (c₁ ∧ r = a) ∨ (¬ c₁ ∧ c₂ ∧ r = b) ∨ (¬ c₁ ∧ ¬ c₂ ∧ c₃ ∧ r = c) ∨ (¬ c₁ ∧ ¬ c₂ ∧ ¬ c₃ ∧ r = d) := by
  subst hr
  by_cases h₁ : c₁
  · exact .inl ⟨h₁, if_pos h₁⟩
  · by_cases h₂ : c₂
    · exact .inr (.inl ⟨h₁, h₂, by rw [if_neg h₁, if_pos h₂]⟩)
    · by_cases h₃ : c₃
      · exact .inr (.inr (.inl ⟨h₁, h₂, h₃, by rw [if_neg h₁, if_neg h₂, if_pos h₃]⟩))
      · exact .inr (.inr (.inr ⟨h₁, h₂, h₃, by rw [if_neg h₁, if_neg h₂, if_neg h₃]⟩))

/-- **`create_new`**: the empty dataset is answered exactly when `create_new` is set and the file is absent -/
theorem c14_load_create_new {C : Type} (ext : String → String → String) (ex : String → Bool) (name engine : String)
    (ltm : Option Bool) (cn : Bool) (chunks : Option C) :
    Gen.loadDs ext ex name engine ltm cn chunks = .empty ↔ (cn = true ∧ ex (ext name engine) = false) := by
  have hc : (!ex (ext name engine) && cn) = true ↔ (cn = true ∧ ex (ext name engine) = false) := by
    cases ex (ext name engine) <;> cases cn <;> decide
  rw [← hc]
  rcases ite_chain_cases (loadDs_spec ext ex name engine ltm cn chunks).symm with
    ⟨h1, h⟩ | ⟨h1, _, h⟩ | ⟨h1, _, _, h⟩ | ⟨h1, _, _, h⟩ <;> rw [h]
  · exact ⟨fun _ => h1, fun _ => rfl⟩
  all_goals exact ⟨nofun, fun h' => absurd h' h1⟩

/-- an existing file is always read (never replaced by the empty dataset), whatever `create_new` says -/
theorem c14_load_existing_is_read {C : Type} (ext : String → String → String) (ex : String → Bool) (name engine : String)
    (ltm : Option Bool) (cn : Bool) (chunks : Option C) (h : ex (ext name engine) = true) :
    Gen.loadDs ext ex name engine ltm cn chunks ≠ .empty := by
  intro h'
  have := (c14_load_create_new ext ex name engine ltm cn chunks).mp h'
  rw [h] at this; exact absurd this.2 (by simp)

/-- **one path for save and load, on the translated bodies**: whatever the engine string and the options, the path the
writer of `save_ds` is given and the path any reader of `load_ds` is given are the same `auto_add_extension(name, engine)` -/
theorem c14_save_load_same_path {A C : Type} (a : AttrOps A) (hx : a.Exclusive) (ext : String → String → String) (ex : String → Bool)
    (name engine : String) (attrs : List (String × A)) (vars : List VarEnc) (kw ltm : Option Bool) (cn : Bool)
    (chunks : Option C) :
    (Gen.saveDs a ext name engine attrs vars kw).map (·.path) = some (ext name engine) ∧
    ∀ c, Gen.loadDs ext ex name engine ltm cn chunks = .read c → c.path = ext name engine := by
  refine ⟨by rw [saveDs_spec a hx]; rfl, ?_⟩
  intro c h
  rcases ite_chain_cases ((loadDs_spec ext ex name engine ltm cn chunks).symm.trans h) with
    ⟨_, h'⟩ | ⟨_, _, h'⟩ | ⟨_, _, _, h'⟩ | ⟨_, _, _, h'⟩ <;> cases h' <;> rfl

/-- `auto_add_extension` at the model's engines, as a function of the engine string -/
def extOfKey (name key : String) : String := autoAddExt name (Harvest.engineOfKey key)

/-- … and that path is the hand-written model's `savePath` = `loadPath` (whose definition the expression anchors
`saveDsExtends` / `loadDsExtends` decide): translated bodies, anchors and model agree on where a dataset lives -/
theorem c14_translated_paths (ex : String → Bool) (name : String) (e : Engine) (d : Dataset) (vars : List VarEnc)
    (kw ltm : Option Bool) (cn : Bool) (chunks : Option Unit) :
    (Gen.saveDs attrOps extOfKey name e.key d.attrs vars kw).map (·.path) = some (savePath name e) ∧
    ∀ c, Gen.loadDs extOfKey ex name e.key ltm cn chunks = .read c → c.path = loadPath name e := by
  obtain ⟨hs, hl⟩ := c14_save_load_same_path attrOps attrOps_exclusive extOfKey ex name e.key d.attrs vars kw ltm cn chunks
  refine ⟨by rw [hs, savePath_eq, extOfKey, engineOfKey_key], ?_⟩
  intro c hc
  rw [hl c hc, loadPath_eq, extOfKey, engineOfKey_key]

/-- the `load_to_mem` / `chunks` rule: a ValueError exactly for `load_to_mem=True` with `chunks` (file present or no
`create_new`, engine not joblib) -/
theorem c14_load_value_error {C : Type} (ext : String → String → String) (ex : String → Bool) (name engine : String)
    (ltm : Option Bool) (cn : Bool) (chunks : Option C) (e : PyErr) :
    Gen.loadDs ext ex name engine ltm cn chunks = .raise e ↔
      (e = .valueError ∧ (!ex (ext name engine) && cn) = false ∧ engine ≠ "joblib" ∧ ltm = some true ∧ chunks.isSome = true) := by
  rcases ite_chain_cases (loadDs_spec ext ex name engine ltm cn chunks).symm with
    ⟨h1, h⟩ | ⟨_, hj, h⟩ | ⟨h1, hj, hv, h⟩ | ⟨_, _, hv, h⟩ <;> rw [h]
  · exact ⟨nofun, fun h' => by rw [h1] at h'; exact absurd h'.2.1 (by simp)⟩
  · exact ⟨nofun, fun h' => absurd hj h'.2.2.1⟩
  · exact ⟨fun h' => by cases h'; exact ⟨rfl, Bool.eq_false_iff.mpr h1, hj, hv⟩, fun h' => by rw [h'.1]⟩
  · exact ⟨nofun, fun h' => absurd h'.2.2.2 hv⟩

/-- when is the dataset loaded into memory and the file closed before `load_ds` returns: iff NEITHER `load_to_mem` NOR
`chunks` was given.  In particular an explicit `load_to_mem=True` (without `chunks`) does not load: the `else` branch
of the source sets `load_to_mem = False` for every explicit value (DESIGN.md §7) -/
theorem c14_load_and_close {C : Type} (ext : String → String → String) (ex : String → Bool) (name engine : String)
    (ltm : Option Bool) (cn : Bool) (chunks : Option C) (c : ReadCall)
    (h : Gen.loadDs ext ex name engine ltm cn chunks = .read c) (hj : engine ≠ "joblib") :
    c.loadAndClose = (ltm.isNone && chunks.isNone) := by
  rcases ite_chain_cases ((loadDs_spec ext ex name engine ltm cn chunks).symm.trans h) with
    ⟨_, h'⟩ | ⟨_, hj', _⟩ | ⟨_, _, _, h'⟩ | ⟨_, _, _, h'⟩
  · cases h'
  · exact absurd hj' hj
  · cases h'
  · cases h'; rfl

example : Gen.loadDs (fun n e => n ++ e) (fun _ => true) "f" "h5netcdf" (some true) false (none : Option Unit) =
    .read ⟨.openDataset "h5netcdf" (some "netcdf4"), "fh5netcdf", true, false⟩ := by
  simp [loadDs_spec]

theorem loadDs_readers (ext : String → String → String) (name : String) :
    Gen.loadDs ext (fun _ => true) name "joblib" none false (none : Option Unit) = .read ⟨.joblibLoad, ext name "joblib", false, false⟩ ∧
    Gen.loadDs ext (fun _ => true) name "zarr" none false (none : Option Unit) = .read ⟨.openZarr, ext name "zarr", true, true⟩ ∧
    Gen.loadDs ext (fun _ => true) name "h5netcdf" none false (none : Option Unit) =
      .read ⟨.openDataset "h5netcdf" (some "netcdf4"), ext name "h5netcdf", true, true⟩ ∧
    Gen.loadDs ext (fun _ => true) name "netcdf4" none false (none : Option Unit) =
      .read ⟨.openDataset "netcdf4" none, ext name "netcdf4", true, true⟩ := by
  simp [loadDs_spec]

/-- **the pandas writer / reader tables**: `save_df` calls `df.to_<engine>(name, **kwargs)` with `key=key` for hdf and
`index=False` (unless given) for csv; `load_df` calls `pd.read_<engine>(name)` — the same `<engine>` — and hands NO
keyword argument on (the `key` it prepares for hdf never reaches the reader: `pd.read_hdf(name)` reads the only table of
the file, which is what `save_df` wrote) -/
theorem c14_df_tables (engine : String) :
    Gen.saveDf engine = { method := "to_" ++ engine, keyGiven := decide (engine = "hdf"),
                          indexFalse := decide (engine = "csv"), kwargsHandedOn := true } ∧
    Gen.loadDf engine = { method := "read_" ++ engine, keyGiven := false, indexFalse := false, kwargsHandedOn := false } := by
  constructor
  · by_cases h1 : engine = "hdf" <;> by_cases h2 : engine = "csv" <;>
      simp [Gen.saveDf, Gen.Default.saveDf, h1, h2]
  · by_cases h1 : engine = "hdf" <;> simp [Gen.loadDf, Gen.Default.loadDf, h1]

example : (Gen.saveDf "pickle").method = "to_pickle" ∧ (Gen.loadDf "pickle").method = "read_pickle" := by
  simp [c14_df_tables]

end StoreIO
