import XyzProofs.Lemmas.Batch
/-!
# C07 — batches partition the work exactly and honour the requested size or count

Statements quantify over every list of settings `l` (any element type — the kwargs dicts), every
`batchsize ≥ 1`, every `num_batches ≥ 1`.  The arithmetic they unfold (`Gen.*`) is regenerated from
`xyzpy/gen/cropping.py` on every run.
-/
namespace Batch
open List

variable {α : Type}

/-- every setting is in exactly one batch, order preserved: concatenating the batch files gives back the stream -/
theorem c07_partition (c : Cfg) (l : List α) : (sow c l).flatten = l := by
  have h := (foldl_flat c l).1
  unfold sow finish
  split
  · rename_i he
    rwa [List.isEmpty_iff.mp he, List.append_nil] at h
  · simpa using h

/-- no batch file is empty -/
theorem c07_nonempty (c : Cfg) (l : List α) : ∀ b ∈ sow c l, b ≠ [] := by
  have h := (foldl_flat c l).2
  unfold sow finish
  split
  · exact h
  · rename_i hne
    exact List.forall_mem_append.mpr ⟨h, List.forall_mem_singleton.mpr (by simpa [List.isEmpty_iff] using hne)⟩

/-- **batchsize mode**: `B = ⌈n/s⌉` files, every batch has at most `s` settings and all but the last exactly `s`. -/
theorem c07_batchsize (n s : Nat) (c : Cfg) (l : List α)
    (h : chooseBatch n (some s) none none = .ok c) (hl : l.length = n) (hs : 1 ≤ s) :
    c.batchsize = s ∧ c.remainder = 0 ∧
    (sow c l).length = (n + s - 1) / s ∧ (sow c l).length = c.numBatches ∧
    (∀ b ∈ sow c l, b.length ≤ s) ∧
    (∀ j (hj : j + 1 < (sow c l).length), ((sow c l)[j]).length = s) := by
  rw [chooseBatch_batchsize n s none hs] at h
  cases h
  have hq := Nat.div_add_mod (n + s - 1) s
  have hr := Nat.mod_lt (n + s - 1) hs
  rw [Nat.mul_comm] at hq
  have hcount := length_sow_of_fits ⟨s, (n + s - 1) / s, 0⟩ hs (Nat.zero_le _) l (by dsimp only; omega) (by dsimp only; omega)
  refine ⟨rfl, rfl, hcount, hcount, ?_, ?_⟩
  · intro b hb
    obtain ⟨j, hj, rfl⟩ := List.getElem_of_mem hb
    rw [sow_getElem_length _ hs l j hj, sizeOf_eq]
    exact Nat.le_trans (Nat.min_le_left _ _) (by simp)
  · intro j hj
    have := (not_congr (length_sow_le_iff ⟨s, (n + s - 1) / s, 0⟩ hs l (j + 1))).mp (by omega)
    rw [sumSizes_succ, sizeOf_eq] at this
    rw [sow_getElem_length _ hs l j (by omega), sizeOf_eq]
    simp only [Nat.not_lt_zero, if_false] at this ⊢
    omega

/-- **num_batches mode**: `B = min k n` files, file `j` (0-based) has `n / B` settings plus one if `j < n mod B`
(so sizes differ by at most one and the first `n mod B` batches are the larger ones). -/
theorem c07_num_batches (n k : Nat) (c : Cfg) (l : List α)
    (h : chooseBatch n none (some k) none = .ok c) (hl : l.length = n) (hn : 1 ≤ n) (hk : 1 ≤ k) :
    c.numBatches = min k n ∧ c.batchsize = n / min k n ∧ c.remainder = n % min k n ∧
    (sow c l).length = min k n ∧
    (∀ j (hj : j < (sow c l).length),
        ((sow c l)[j]).length = n / min k n + (if j < n % min k n then 1 else 0)) := by
  rw [chooseBatch_numBatches n k none (by omega)] at h
  cases h
  generalize hBdef : min k n = B at *
  have hdm := Nat.div_add_mod n B
  have hrlt : n % B < B := Nat.mod_lt _ (by omega)
  have hq1 : 1 ≤ n / B := (Nat.one_le_div_iff (by omega)).mpr (by omega)
  have hcount := length_sow_of_fits ⟨n / B, B, n % B⟩ hq1 (Nat.le_of_lt hrlt) l (by dsimp only; omega) (by dsimp only; omega)
  refine ⟨rfl, rfl, rfl, hcount, ?_⟩
  intro j hj
  have := sumSizes_mono ⟨n / B, B, n % B⟩ (show j + 1 ≤ B by rw [hcount] at hj; exact hj)
  rw [sumSizes_succ, sumSizes_eq _ B] at this
  rw [sow_getElem_length _ hq1 l j hj, ← sizeOf_eq ⟨n / B, B, n % B⟩]
  simp only at this hcount
  omega

/-- the batch count the crop reports (and stores in its info file) is the number of batch files written,
    in both modes -/
theorem c07_reported_count (n : Nat) (bs? nb? : Option Nat) (c : Cfg) (l : List α)
    (hboth : bs? = none ∨ nb? = none)
    (h : chooseBatch n bs? nb? none = .ok c) (hl : l.length = n) (hn : 1 ≤ n)
    (hnb : ∀ k, nb? = some k → 1 ≤ k) :
    (sow c l).length = c.numBatches := by
  cases nb? with
  | none =>
    cases bs? with
    | none =>
      have h' : chooseBatch n (some 1) none none = .ok c := by simpa [chooseBatch] using h
      exact (c07_batchsize n 1 c l h' hl (Nat.le_refl _)).2.2.2.1
    | some s =>
      by_cases hs : 1 ≤ s
      · exact (c07_batchsize n s c l h hl hs).2.2.2.1
      · have hs1 : s < 1 := by omega
        simp [chooseBatch, hs1] at h
  | some k =>
    cases bs? with
    | none =>
      have := c07_num_batches n k c l h hl hn (hnb k rfl)
      rw [this.2.2.2.1, this.1]
    | some s => simp at hboth

/-- **re-sow** (batch size, batch count and remainder remembered from an earlier sow): whenever
`choose_batch_settings` accepts the new number of settings, the Sower again writes exactly `num_batches` files — every
batch file of the earlier sow is overwritten, none is left over, and the reported count stays true. -/
theorem c07_resow_count (n bs nb rem : Nat) (c : Cfg) (l : List α)
    (h : chooseBatch n (some bs) (some nb) (some rem) = .ok c) (hl : l.length = n) (hbs : 1 ≤ bs)
    (hrem : rem ≤ nb) :
    c = ⟨bs, nb, rem⟩ ∧ (sow c l).length = nb := by
  rw [chooseBatch_both] at h
  split at h
  · rename_i hok
    cases h
    rw [Nat.mul_comm] at hok
    exact ⟨rfl, length_sow_of_fits ⟨bs, nb, rem⟩ hbs hrem l (by simpa [hl] using hok.1) (by simpa [hl] using hok.2)⟩
  · cases h


/-! Non-vacuity: concrete instances meeting the hypotheses. -/
example : chooseBatch 7 none (some 3) none = .ok ⟨2, 3, 1⟩ := by decide
example : sow ⟨2, 3, 1⟩ [0, 1, 2, 3, 4, 5, 6] = [[0, 1, 2], [3, 4], [5, 6]] := by decide
example : chooseBatch 7 (some 3) none none = .ok ⟨3, 3, 0⟩ := by decide
example : sow ⟨3, 3, 0⟩ [0, 1, 2, 3, 4, 5, 6] = [[0, 1, 2], [3, 4, 5], [6]] := by decide
example : chooseBatch 6 (some 2) (some 3) (some 1) = .ok ⟨2, 3, 1⟩ := by decide
example : sow ⟨2, 3, 1⟩ [0, 1, 2, 3, 4, 5] = [[0, 1, 2], [3, 4], [5]] := by decide

end Batch
