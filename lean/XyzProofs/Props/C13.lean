import XyzProofs.Lemmas.Missing
/-!
# C13 — missing-data discovery reports exactly the locations that have no data

Model: `XyzModel/Missing.lean` (`isCaseMissing`, `findMissingCases`, `parseIntoCases`) over the finite-map datasets of
`XyzModel/Dataset.lean`.  `c13_loop` rests on the merge lemmas of `Lemmas/Dataset.lean` (`coordsOf_combineFirst`), as C05 does.
-/
namespace Missing
open DS

/-! ### the property's own reading of "has no data at a location" (with `DataAt`, Lemmas/Missing.lean) -/

/-- every variable is entirely null at the location -/
def EntirelyNull (d : Dataset) (loc : Pt) (m : Method) : Prop := ¬ DataAt d loc m

/-- well-formed: variable names distinct, and within a variable every point stored once (a finite *map*) -/
def WF (d : Dataset) : Prop :=
  (d.vars.map (·.1)).Nodup ∧ ∀ e ∈ d.vars, (e.2.cells.map (·.1)).Nodup

/-- on a well-formed dataset, "a stored cell" is the same as "the finite map has a value" -/
theorem dataAt_iff_get (d : Dataset) (hwf : WF d) (loc : Pt) (m : Method) :
    DataAt d loc m ↔ ∃ n q t, d.get n q = some t ∧ ptMatches loc q = true ∧ present m t = true := by
  constructor
  · rintro ⟨e, he, c, hc, h1, h2⟩
    refine ⟨e.1, c.1, c.2, ?_, h1, h2⟩
    have hv : alookup d.vars e.1 = some e.2 := alookup_of_mem_nodup d.vars e.1 e.2 hwf.1 he
    simp only [Dataset.get, Dataset.cellsOf, hv, Option.map_some, Option.getD_some]
    exact cget_of_mem_nodup e.2.cells c.1 c.2 (hwf.2 e he) hc
  · rintro ⟨n, q, t, hg, h1, h2⟩
    obtain ⟨v, hv, hc⟩ := Dataset.mem_of_get hg
    exact ⟨(n, v), hv, (q, t), hc, h1, h2⟩

/-- **reported ⇔ no data**: a location is reported missing exactly when a requested label (coordinate or dimension)
is absent from the dataset, or every variable is entirely null there — all positions of the remaining (internal)
dimensions, all variables, under the chosen null criterion -/
theorem c13_iff (d : Dataset) (loc : Pt) (m : Method) :
    isCaseMissing d loc m = true ↔ (d.hasLabels loc = false ∨ EntirelyNull d loc m) := by
  rw [← Bool.not_eq_false, isCaseMissing_eq_false, EntirelyNull, Decidable.not_and_iff_not_or_not, Bool.not_eq_true]

/-- the two null criteria: a stored value is always data; `±inf` is data for `isnull` and missing for `isfinite` -/
theorem present_cases (m : Method) :
    (∀ n, present m (.v n) = true) ∧ (present .isnull .pinf = true ∧ present .isnull .ninf = true) ∧
    (present .isfinite .pinf = false ∧ present .isfinite .ninf = false) := by
  refine ⟨fun _ => rfl, ⟨rfl, rfl⟩, ⟨rfl, rfl⟩⟩

/-- **locations with any data are never reported** -/
theorem c13_never_reports_data (d : Dataset) (loc : Pt) (m : Method) (h : DataAt d loc m) (hl : d.hasLabels loc = true) :
    isCaseMissing d loc m = false :=
  (isCaseMissing_eq_false d loc m).mpr ⟨hl, h⟩

/-- **`find_missing_cases` reports exactly the grid locations without data** -/
theorem c13_find_iff (d : Dataset) (ignore : List String) (m : Method) (c : List Coord) :
    c ∈ (findMissingCases d ignore m).2 ↔
      c ∈ Core.product ((gridDims d ignore).map (·.2)) ∧
      isCaseMissing d (((gridDims d ignore).map (·.1)).zip c) m = true :=
  List.mem_filter

/-- **`parse_into_cases` keeps exactly the requested settings without data** (all of them when no dataset is given) -/
theorem c13_parse_iff (combos : List (String × List Coord)) (cases : Option (List Pt)) (d : Option Dataset)
    (m : Method) (nc : Pt) :
    nc ∈ parseIntoCases combos cases d m ↔
      nc ∈ requested combos (cases.getD [[]]) ∧ (∀ ds, d = some ds → isCaseMissing ds nc m = true) := by
  unfold parseIntoCases
  rw [List.mem_filter]
  cases d <;> simp

/-- **grid order, no duplicates**: the reported cases are a subsequence of the grid (dimensions in dataset order, each
in coordinate order, first dimension slowest), hence without duplicates when the coordinates are distinct; the cases
kept by `parse_into_cases` are a subsequence of the requested settings (cases outermost, combos in product order) -/
theorem c13_order_nodup (d : Dataset) (ignore : List String) (m : Method) :
    (findMissingCases d ignore m).1 = (gridDims d ignore).map (·.1) ∧
    ((findMissingCases d ignore m).2).Sublist (Core.product ((gridDims d ignore).map (·.2))) ∧
    ((∀ e ∈ d.coords, e.2.Nodup) → ((findMissingCases d ignore m).2).Nodup) ∧
    (∀ combos cases ds, (parseIntoCases combos cases ds m).Sublist (requested combos (cases.getD [[]]))) := by
  refine ⟨rfl, List.filter_sublist, ?_, fun _ _ _ => List.filter_sublist⟩
  intro h
  apply List.Sublist.nodup List.filter_sublist
  apply Core.product_nodup
  intro l hl
  obtain ⟨e, he, rfl⟩ := List.mem_map.mp hl
  exact h e (List.mem_filter.mp he).1

/-- **harvesting exactly the reported cases leaves nothing missing** (`overwrite=True`, either null criterion):
let `N` be new data over the same dimensions whose coordinates are among the dataset's, which has data at every
reported case (the function "returns data") and only at reported cases; then `find_missing_cases` on the merged dataset
`N.combine_first(d)` reports nothing -/
theorem c13_loop (d N : Dataset) (ignore : List String) (m : Method)
    (hnod : (d.coords.map (·.1)).Nodup) (hvars : (d.vars.map (·.1)).Nodup)
    (hdims : N.coords.map (·.1) = d.coords.map (·.1))
    (hsub : ∀ dim c, c ∈ N.coordsOf dim → c ∈ d.coordsOf dim)
    (hdata : ∀ c ∈ (findMissingCases d ignore m).2, DataAt N (((findMissingCases d ignore m).1).zip c) m)
    (honly : ∀ e ∈ N.vars, ∀ x ∈ e.2.cells,
      ∃ c ∈ (findMissingCases d ignore m).2, ptMatches (((findMissingCases d ignore m).1).zip c) x.1 = true) :
    (findMissingCases (N.combineFirst d) ignore m).2 = [] := by
  -- the merged dataset has the dimensions of `d`, and no coordinate that `d` has not: its grid lies in the grid of `d`
  have hkeys : (N.combineFirst d).coords.map (·.1) = d.coords.map (·.1) := by
    have : ((d.coords.map (·.1)).filter fun k => (alookup N.coords k).isNone) = [] := by
      rw [List.filter_eq_nil_iff, ← hdims]
      intro k hk
      obtain ⟨e, he, rfl⟩ := List.mem_map.mp hk
      simpa [Option.isSome_iff_ne_none] using alookup_isSome_of_mem N.coords e.1 e.2 he
    simp only [Dataset.combineFirst, unionCoords_keys, this, List.append_nil, hdims]
  have hnames : (gridDims (N.combineFirst d) ignore).map (·.1) = (gridDims d ignore).map (·.1) := by
    rw [gridDims_fst, gridDims_fst, hkeys]
  rw [List.eq_nil_iff_forall_not_mem]
  intro c hc
  obtain ⟨hcg, hmiss⟩ := (c13_find_iff _ ignore m c).mp hc
  have hlab := hasLabels_of_grid _ ignore (hkeys ▸ hnod) c hcg
  rw [gridDims_snd _ ignore (hkeys ▸ hnod)] at hcg
  rw [hnames] at hcg hmiss hlab
  have hcd : c ∈ Core.product ((gridDims d ignore).map (·.2)) := by
    rw [gridDims_snd d ignore hnod]
    refine Core.product_map_mono _ _ _ (fun k _ x hx => ?_) c hcg
    exact ((Dataset.coordsOf_combineFirst N d k x).mp hx).elim (hsub k x) id
  -- it is enough to exhibit data at the location in the merged dataset
  suffices hD : DataAt (N.combineFirst d) (((gridDims d ignore).map (·.1)).zip c) m by
    rw [c13_never_reports_data _ _ m hD hlab] at hmiss; cases hmiss
  cases hm : isCaseMissing d (((gridDims d ignore).map (·.1)).zip c) m with
  | true =>
    -- reported before: the new data has data there, and new data wins
    exact dataAt_combineFirst_left N d _ m (hdata c ((c13_find_iff d ignore m c).mpr ⟨hcd, hm⟩))
  | false =>
    -- had data before: that cell is still there, because the new data has cells only at reported cases
    obtain ⟨e, he, x, hx, h1, h2⟩ := ((isCaseMissing_eq_false d _ m).mp hm).2
    refine dataAt_combineFirst_right N d _ m hvars e he x hx ?_ h1 h2
    -- a cell of the new data at the same point would lie at a reported case, where the old data has nothing
    cases hg : N.get e.1 x.1 with
    | none => rfl
    | some t' =>
      obtain ⟨vN, hv, hcell⟩ := Dataset.mem_of_get hg
      obtain ⟨c', hc', hmatch⟩ := honly (e.1, vN) hv (x.1, t') hcell
      obtain ⟨hc'g, hc'm⟩ := (c13_find_iff d ignore m c').mp hc'
      rw [(isCaseMissing_eq_false d _ m).mpr ⟨hasLabels_of_grid d ignore hnod c' hc'g, e, he, x, hx, hmatch, h2⟩] at hc'm
      cases hc'm

def exDs : Dataset :=
  { coords := [("a", [1, 2]), ("t", [0, 1])]
    vars := [("x", { dims := ["a", "t"], cells := [([("a", 1), ("t", 0)], .v 5), ([("a", 2), ("t", 1)], .pinf)] })] }

example : (findMissingCases exDs ["t"] .isnull).2 = [] := by decide
example : (findMissingCases exDs ["t"] .isfinite).2 = [[2]] := by decide
example : (findMissingCases exDs [] .isnull) = (["a", "t"], [[1, 1], [2, 0]]) := by decide
example : isCaseMissing exDs [("a", 3)] .isnull = true := by decide
example : DataAt exDs [("a", 1)] .isfinite := ⟨_, List.mem_cons_self .., _, List.mem_cons_self .., by decide, by decide⟩

end Missing
