import XyzProofs.Lemmas.Fmt
import XyzProofs.Lemmas.FmtTotal
/-!
# C20 — a number formatted with its error reads back as that number and that error

Exact arithmetic (`ℚ`): every `|x| ≥ 0`, every `err > 0`.  The exponent rule, the hide rule and the digit count
that the theorems rest on (`Gen.fmtExp`, `Gen.fmtHide`, `Gen.fmtDigits`, read through their equations in
`Lemmas/Fmt.lean`) are regenerated from `xyzpy/utils.py` on every run.  Floating point is *not* reasoned about here:
the two float divisions `x / 10**k`, `err / 10**k` enter as data (`axs`, `errs`) with the hypothesis `gapOk i k τ`
(relative distance at most `τ` from the exact quotients, `τ ≤ 1`; the harness checks it on every sample with
`τ = 2⁻⁵¹`, resp. `2⁻⁴⁰` where `10**k` is subnormal).

`c20_round_spec` stands in `Lemmas/Fmt.lean`, `c20_floorLog10` and `c20_sci_total` in `Lemmas/FmtTotal.lean`, where
the lemmas that use them are.

`sign i` is `-1` when the sign bit of `x` is set.  `shownX / shownErr / shownExp` are the value and error that get
formatted and the printed power of ten (`0` when hidden).
-/
namespace Fmt

def sign (i : Inp) : ℚ := if i.neg then -1 else 1

theorem abs_sign (i : Inp) : |sign i| = 1 := by unfold sign; split <;> simp

/-- `sci q p = some (m, e)` is a correct rounding to `p + 1` significant digits:
`10^p ≤ m < 10^(p+1)` and `|q − m·10^(e−p)| ≤ ½·10^(e−p)` -/
theorem c20_sci_spec (q : ℚ) (p : ℕ) (m e : ℤ) (h : sci q p = some (m, e)) :
    (10 : ℚ) ^ p ≤ m ∧ (m : ℚ) < (10 : ℚ) ^ (p + 1) ∧
    |q - m * (10 : ℚ) ^ (e - p)| ≤ (1 / 2) * (10 : ℚ) ^ (e - p) :=
  ⟨(sci_isSci h).lo, (sci_isSci h).hi, (sci_isSci h).err⟩

example : sci (249 / 25) 1 = some (10, 1) := by decide +kernel      -- 9.96 → 1.0e+01
example : sci (1 / 8) 1 = some (12, -1) := by decide +kernel         -- 0.125 → 1.2e-01 (tie to even)
example : sci (999 / 10) 6 = some (9990000, 1) := by decide +kernel  -- 99.9 → 9.990000e+01

/-- `fixed q d` (the digits of `f"{q:.{d}f}"`): `|q − fixed q d / 10^d| ≤ ½ / 10^d` -/
theorem c20_fixed_spec (q : ℚ) (d : ℕ) :
    |q - (fixed q d : ℚ) / (10 : ℚ) ^ d| ≤ (1 / 2) / (10 : ℚ) ^ d := by
  -- rounding in units of `10^(-d)`
  have h := abs_sub_round_mul q (u := ((10 : ℚ) ^ d)⁻¹) (by positivity)
  rw [div_inv_eq_mul] at h
  unfold fixed
  rwa [natPow_cast, div_eq_mul_inv, div_eq_mul_inv]

example : fixed (999 / 10) 0 = 100 := by decide +kernel
example : fixed (1 / 8) 2 = 12 := by decide +kernel

/-- in every branch the two-digit error mantissa has exponent `E ≤ 1` -/
theorem c20_E_le_one (i : Inp) (k m E : ℤ) (τ : ℚ) (hτ : τ ≤ 1) (herr : 0 < i.err)
    (hk : kOf i = some k) (hs : sci (shownErr i k) 1 = some (m, E))
    (hgap : hide i k = false → gapOk i k τ = true) : E ≤ 1 := by
  obtain ⟨xe, m6, ee, _, hse, hkeq⟩ := kOf_some hk
  have hke : ee + 1 ≤ k := by
    rw [hkeq, fmtExp_eq]
    exact le_max_right _ _
  -- the error is below `10^k`, by the exponent rule
  have herrk : i.err < (10 : ℚ) ^ k :=
    lt_of_lt_of_le (lt_of_isSci (sci_isSci hse)) (zpow_le_zpow_right₀ (by norm_num) hke)
  apply E_le_one_of_lt (sci_isSci hs)
  have hpos : (0 : ℚ) < (10 : ℚ) ^ k := by positivity
  unfold shownErr
  cases hh : hide i k
  · -- rescaled: `errs · 10^k ≤ (1 + τ) · err ≤ 2 · err < 2 · 10^k`
    have hge := (abs_sub_le_iff.mp (gapOk_spec (hgap hh)).2.2).1
    have : i.errs * (10 : ℚ) ^ k < 95 * (10 : ℚ) ^ k :=
      calc i.errs * (10 : ℚ) ^ k ≤ i.err + τ * i.err := sub_le_iff_le_add'.mp hge
        _ ≤ i.err + 1 * i.err := by gcongr
        _ < 95 * (10 : ℚ) ^ k := by linarith
    exact lt_of_mul_lt_mul_right this hpos.le
  · -- hidden: `k ≤ 1` by the hide rule, and `err < 10^k`
    have hk1 : k ≤ 1 := by
      rw [hide, fmtHide_eq] at hh
      simp only [Bool.or_eq_true, Bool.and_eq_true, decide_eq_true_eq] at hh
      omega
    calc i.err < (10 : ℚ) ^ k := herrk
      _ ≤ (10 : ℚ) ^ (1 : ℤ) := zpow_le_zpow_right₀ (by norm_num) hk1
      _ < 95 := by norm_num

/-- the shown digits of the value and the two bracketed digits both count units of `10^(E−1)` -/
theorem denote_format {i : Inp} {o : Out} {k m E : ℤ} (h : format i = some o) (hk : kOf i = some k)
    (hs : sci (shownErr i k) 1 = some (m, E)) (hE : E ≤ 1) :
    denote o =
      (sign i * (((fixed (shownX i k) (Gen.fmtDigits E).toNat).toNat : ℚ) * (10 : ℚ) ^ (E - 1) * (10 : ℚ) ^ shownExp i k),
        (m.toNat : ℚ) * (10 : ℚ) ^ (E - 1) * (10 : ℚ) ^ shownExp i k) := by
  simp only [format, hk, hs, Option.some.injEq] at h
  have hd : -(((Gen.fmtDigits E).toNat : ℕ) : ℤ) = E - 1 := by rw [digits_eq hE]; ring
  rw [← h]
  simp only [denote, pow10_eq, hd, shownExp, sign, mul_assoc]
  cases hide i k <;> rfl

/-- the denoted uncertainty is the shown error rounded to two significant figures (`m · 10^(E−1)`, with `(m, E)`
its `sci` rounding, see `c20_sci_spec`) times the shown power of ten -/
theorem c20_uncertainty (i : Inp) (o : Out) (k m E : ℤ) (τ : ℚ) (hτ : τ ≤ 1) (herr : 0 < i.err)
    (h : format i = some o) (hk : kOf i = some k) (hs : sci (shownErr i k) 1 = some (m, E))
    (hgap : hide i k = false → gapOk i k τ = true) :
    (denote o).2 = (m : ℚ) * (10 : ℚ) ^ (E - 1) * (10 : ℚ) ^ (shownExp i k) := by
  have hm0 : 0 ≤ m := by
    have : (0 : ℚ) ≤ (m : ℚ) := le_trans (by positivity) (sci_isSci hs).lo
    exact_mod_cast this
  rw [denote_format h hk hs (c20_E_le_one i k m E τ hτ herr hk hs hgap), cast_toNat hm0]

/-- the denoted value is the shown value rounded to the same last digit: it differs from `± shownX · 10^K` by at
most half a unit of the second digit of the error, `½ · 10^(E−1) · 10^K` -/
theorem c20_value (i : Inp) (o : Out) (k m E : ℤ) (τ : ℚ) (hτ : τ ≤ 1) (herr : 0 < i.err) (hax : 0 ≤ i.ax)
    (h : format i = some o) (hk : kOf i = some k) (hs : sci (shownErr i k) 1 = some (m, E))
    (hgap : hide i k = false → gapOk i k τ = true) :
    |(denote o).1 - sign i * shownX i k * (10 : ℚ) ^ (shownExp i k)|
      ≤ (1 / 2) * (10 : ℚ) ^ (E - 1) * (10 : ℚ) ^ (shownExp i k) := by
  have hE := c20_E_le_one i k m E τ hτ herr hk hs hgap
  set d := (Gen.fmtDigits E).toNat with hddef
  -- `fixed · d` rounds in units of `10^(−d) = 10^(E−1)`
  have hfix : (fixed (shownX i k) d : ℚ) = roundHalfEven (shownX i k / (10 : ℚ) ^ (E - 1)) := by
    have hd : E - 1 = -((d : ℕ) : ℤ) := by rw [hddef, digits_eq hE]; ring
    rw [hd, zpow_neg, zpow_natCast, div_inv_eq_mul, ← natPow_cast]
    rfl
  have hfix0 : 0 ≤ fixed (shownX i k) d := round_nonneg (mul_nonneg (shownX_nonneg hax hgap) (by positivity))
  rw [denote_format h hk hs hE, ← hddef, cast_toNat hfix0, hfix, mul_assoc (sign i) (shownX i k), ← mul_sub, abs_mul,
    abs_sign, one_mul, abs_sub_comm]
  exact abs_sub_mul_le (by positivity) (abs_sub_round_mul (shownX i k) (by positivity))

/-- **read-back, in terms of the original `x` and `err`** (the float scaling enters through `τ` only): a
successfully formatted output denotes an uncertainty `U = m·10^(E−1)·10^K` with `10 ≤ m ≤ 99` that is the
two-significant-figure rounding of the shown error, within `½·unit + τ·err` of `err`, and a value within
`½·unit + τ·|x|` of `x`, where `unit = 10^(E−1)·10^K` is the weight of the last shown digit of both. -/
theorem c20_reads_back (i : Inp) (o : Out) (τ : ℚ) (hτ0 : 0 ≤ τ) (hτ : τ ≤ 1) (herr : 0 < i.err) (hax : 0 ≤ i.ax)
    (h : format i = some o) (hgap : ∀ k, kOf i = some k → hide i k = false → gapOk i k τ = true) :
    ∃ (m E K : ℤ), (10 : ℚ) ≤ m ∧ (m : ℚ) < 100 ∧ E ≤ 1 ∧
      (denote o).2 = (m : ℚ) * ((10 : ℚ) ^ (E - 1) * (10 : ℚ) ^ K) ∧
      |(denote o).2 - i.err| ≤ (1 / 2) * ((10 : ℚ) ^ (E - 1) * (10 : ℚ) ^ K) + τ * i.err ∧
      |(denote o).1 - sign i * i.ax| ≤ (1 / 2) * ((10 : ℚ) ^ (E - 1) * (10 : ℚ) ^ K) + τ * i.ax := by
  obtain ⟨k, m, E, hk, hs, _⟩ := format_some h
  have hg := hgap k hk
  have hE := c20_E_le_one i k m E τ hτ herr hk hs hg
  have hU := c20_uncertainty i o k m E τ hτ herr h hk hs hg
  have hV := c20_value i o k m E τ hτ herr hax h hk hs hg
  obtain ⟨hcx, hce⟩ := shown_close hτ0 herr hax hg
  have hsci := sci_isSci hs
  have hKpos : (0 : ℚ) < (10 : ℚ) ^ shownExp i k := by positivity
  refine ⟨m, E, shownExp i k, by simpa using hsci.lo, by have := hsci.hi; norm_num at this; exact this, hE,
    by rw [hU]; ring, ?_, ?_⟩
  · -- rounding to two figures, then the float scaling
    have hround := abs_sub_mul_le hKpos hsci.err
    rw [Nat.cast_one, abs_sub_comm, ← hU, mul_assoc] at hround
    exact (abs_sub_le _ (shownErr i k * (10 : ℚ) ^ shownExp i k) _).trans (add_le_add hround hce)
  · -- rounding to the last shown digit, then the float scaling
    have hscale : |sign i * (shownX i k * (10 : ℚ) ^ shownExp i k) - sign i * i.ax| ≤ τ * i.ax := by
      rw [← mul_sub, abs_mul, abs_sign, one_mul]
      exact hcx
    rw [mul_assoc (sign i), mul_assoc (1 / 2 : ℚ)] at hV
    exact (abs_sub_le _ (sign i * (shownX i k * (10 : ℚ) ^ shownExp i k)) _).trans (add_le_add hV hscale)

/-- **the formatter is total**: for every value, every positive error and positive rescaled error the model produces
an output — so `c20_uncertainty`, `c20_value`, `c20_reads_back` apply to every such input, not just to those on which
the model happened to answer -/
theorem c20_format_total (i : Inp) (herr : 0 < i.err) (hax : 0 ≤ i.ax) (herrs : 0 < i.errs) :
    ∃ o, format i = some o := by
  obtain ⟨me, ee, hse⟩ := c20_sci_total _ herr 6
  have hk : ∃ k, kOf i = some k := by
    unfold kOf expOf
    by_cases h0 : i.ax = 0
    · simp [h0, hse]
    · have hpos : 0 < i.ax := lt_of_le_of_ne hax (Ne.symm h0)
      obtain ⟨mx, ex, hsx⟩ := c20_sci_total _ hpos 6
      simp [h0, hsx, hse]
  obtain ⟨k, hk⟩ := hk
  have hshown : 0 < shownErr i k := by unfold shownErr; split_ifs <;> assumption
  obtain ⟨m, E, hs⟩ := c20_sci_total _ hshown 1
  unfold format
  simp [hk, hs]

/-! ### non-vacuity: the repaired D13 witness and the docstring examples -/

/-- `format_number_with_error(99.9, 9.96)`: hidden exponent, `E = 1`, no decimals: `100(10)` = 100 ± 10 -/
example : (format ⟨false, 999 / 10, 249 / 25, 999 / 100, 249 / 250, true⟩).map render = some "100(10)" := by
  decide +kernel
example : (format ⟨false, 999 / 10, 249 / 25, 999 / 100, 249 / 250, true⟩).map denote = some (100, 10) := by
  decide +kernel
/-- `format_number_with_error(0.1542412, 0.0626653)` = `0.154(63)` -/
example : (format ⟨false, 1542412 / 10000000, 626653 / 10000000, 1542412 / 1000000, 626653 / 1000000, false⟩).map
    render = some "0.154(63)" := by decide +kernel
/-- `format_number_with_error(-128124123097, 6424)` = `-1.281241231(64)e+11` -/
example : (format ⟨true, 128124123097, 6424, 128124123097 / 100000000000, 6424 / 100000000000, true⟩).map
    render = some "-1.281241231(64)e+11" := by decide +kernel

end Fmt
