import XyzProofs.Lemmas.Core
/-!
# C01 — a grid sweep evaluates every combination exactly once, in its own slot

For every swept function `f`, every grid (`comboVals`, any number of arguments and values), every permutation
`σ` a shuffle could produce, every execution order `π` of an executor, flat/nested/split.
Constants are the same for every call and are not part of a location (that they reach every call is
`CoreRefine.coreEnum_refines`).
-/
namespace Core
open List

variable {β : Type}

theorem core_ok (f : List Nat → β) (nl : β → β) (s : Sweep) (st : Strategy)
    (hov : s.overlap = false) (hwf : st.WF s.locs.length) :
    ∃ r, core f nl s st = .ok r ∧ r.log ~ s.locs ∧ r.flat = s.locs.map f ∧
      r.nested = processNested s (s.locs.map f) (nl (match s.locs with | [] => f [] | l :: _ => f l)) :=
  ⟨_, core_eq f nl s st hov hwf, runLinear_log f s.locs st hwf, rfl, by cases s.locs <;> rfl⟩

/-- **exactly once**: the call log is a permutation of the list of all combinations, under every strategy -/
theorem c01_calls_once (f : List Nat → β) (nl : β → β) (s : Sweep) (st : Strategy)
    (hg : s.caseRows = none) (hov : s.overlap = false) (hwf : st.WF s.locs.length) :
    ∃ r, core f nl s st = .ok r ∧ r.log ~ product s.comboVals :=
  ⟨_, core_eq f nl s st hov hwf, locs_grid s hg ▸ runLinear_log f s.locs st hwf⟩

/-- **flat output**: the function's values in enumeration order, whatever the strategy -/
theorem c01_flat (f : List Nat → β) (nl : β → β) (s : Sweep) (st : Strategy)
    (hg : s.caseRows = none) (hov : s.overlap = false) (hwf : st.WF s.locs.length) :
    ∃ r, core f nl s st = .ok r ∧ r.flat = (product s.comboVals).map f :=
  ⟨_, core_eq f nl s st hov hwf, by rw [← locs_grid s hg]⟩

/-- **own slot**: the nested output, indexed by the position of each argument's value in the order given, holds
the value returned for precisely that combination -/
theorem c01_slot (f : List Nat → β) (nl : β → β) (s : Sweep) (st : Strategy)
    (hg : s.caseRows = none) (hov : s.overlap = false) (hwf : st.WF s.locs.length)
    (idx : List Nat) (p : List Nat) (hp : pick s.comboVals idx = some p) :
    ∃ r, core f nl s st = .ok r ∧ r.nested.get idx = some (.leaf (f p)) :=
  ⟨_, core_eq f nl s st hov hwf, processNested_get_grid s f _ idx p hg hp⟩

/-- **strategy is irrelevant** to what is returned -/
theorem c01_strategy_irrelevant (f : List Nat → β) (nl : β → β) (s : Sweep) (st₁ st₂ : Strategy)
    (hov : s.overlap = false) (h₁ : st₁.WF s.locs.length) (h₂ : st₂.WF s.locs.length) :
    ∃ r₁ r₂, core f nl s st₁ = .ok r₁ ∧ core f nl s st₂ = .ok r₂ ∧ r₁.flat = r₂.flat ∧ r₁.nested = r₂.nested :=
  ⟨_, _, core_eq f nl s st₁ hov h₁, core_eq f nl s st₂ hov h₂, rfl, rfl⟩

/-- **split outputs**: with `split=True` the `j`-th returned array holds the `j`-th component at every slot -/
theorem c01_split_slot (k : Nat) (f : List Nat → List β) (dfl : β) (nl : β → β) (s : Sweep) (st : Strategy)
    (hg : s.caseRows = none) (hov : s.overlap = false) (hwf : st.WF s.locs.length)
    (j : Nat) (hj : j < k) (idx : List Nat) (p : List Nat) (hp : pick s.comboVals idx = some p) :
    ∃ rs : List (Run β), coreSplit k f dfl nl s st = .ok rs ∧ rs.length = k ∧
      ∃ r, rs[j]? = some r ∧ r.nested.get idx = some (.leaf ((f p).getD j dfl)) ∧
           r.flat = (product s.comboVals).map (fun loc => (f loc).getD j dfl) := by
  refine ⟨_, coreSplit_eq k f dfl nl s st hov hwf, by simp, ?_⟩
  -- the `j`-th of the runs that `coreSplit_eq` lists (the `rfl` fills it in)
  exact ⟨_, by rw [List.getElem?_map, List.getElem?_range hj]; rfl, processNested_get_grid s _ _ idx p hg hp,
    by rw [← locs_grid s hg]⟩

theorem firstDup_none_iff (l : List Nat) : firstDup l = none ↔ l.Nodup := by
  induction l with
  | nil => simp [firstDup]
  | cons x xs ih =>
    simp only [firstDup, List.nodup_cons]
    by_cases h : x ∈ xs
    · simp [h]
    · simp [h, ih]

theorem parseCombos_pairs (items : List (String × List Nat)) :
    ((∀ p ∈ items, p.2.Nodup) ∧ parseCombos (.pairs items) = .ok items) ∨
    ((∃ p ∈ items, ¬ p.2.Nodup) ∧ ∃ e, parseCombos (.pairs items) = .error e) := by
  simp only [parseCombos]
  split
  · rename_i a v hfs
    obtain ⟨p, hp, hav⟩ := List.exists_of_findSome?_eq_some hfs
    refine .inr ⟨⟨p, hp, fun hnd => ?_⟩, _, rfl⟩
    simp [(firstDup_none_iff p.2).mpr hnd] at hav
  · rename_i hfs
    refine .inl ⟨fun p hp => (firstDup_none_iff p.2).mp ?_, rfl⟩
    simpa using List.findSome?_eq_none_iff.mp hfs p hp

/-- **spellings**: every spelling of one grid is normalised to the same list of (argument, values) pairs, and a grid
with a repeated value for some argument is rejected by the parser — i.e. before the sweep (and hence any call of the
function) starts; an accepted grid has pairwise distinct values per argument -/
theorem c01_spelling (items : List (String × List Nat)) :
    parseCombos (.dict items) = parseCombos (.pairs items) ∧
    (∀ a vs, parseCombos (.single a vs) = parseCombos (.pairs [(a, vs)])) ∧
    (∀ combos, parseCombos (.pairs items) = .ok combos → combos = items ∧ ∀ p ∈ items, p.2.Nodup) ∧
    ((∃ p ∈ items, ¬ p.2.Nodup) → ∃ e, parseCombos (.pairs items) = .error e) := by
  refine ⟨rfl, fun _ _ => rfl, ?_, ?_⟩
  · intro combos h
    rcases parseCombos_pairs items with ⟨hnd, hok⟩ | ⟨_, e, herr⟩
    · rw [hok] at h
      cases h
      exact ⟨rfl, hnd⟩
    · rw [herr] at h
      cases h
  · intro hdup
    rcases parseCombos_pairs items with ⟨hnd, _⟩ | ⟨_, herr⟩
    · obtain ⟨p, hp, hp'⟩ := hdup
      exact absurd (hnd p hp) hp'
    · exact herr

/-! Non-vacuity: the hypotheses can be met (a 2×3 grid, a shuffle that is one 6-cycle). -/
example : parseCombos (.dict [("a", [1, 2, 1])]) = .error (.duplicate "a" 1) := by rfl
example : parseCombos (.single "a" [1, 2]) = .ok [("a", [1, 2])] := by rfl
example : exSweep.caseRows = none ∧ exSweep.overlap = false := by decide
example : (Strategy.shuffled [4, 0, 3, 1, 5, 2]).WF exSweep.locs.length := by
  show [4, 0, 3, 1, 5, 2] ~ List.range 6
  decide
example : pick exSweep.comboVals [1, 2] = some [1, 2] := by decide

end Core
