import XyzProofs.Props.C18
import XyzProofs.Refine.Infini
/-!
# C18 — the property theorems stated on the functions TRANSLATED from xyzpy/plot/infiniplot.py

`Props/C18.lean` proves the property on the hand-written model, `Refine/Infini.lean` that the model computes what the
translated functions compute (harness/anchors_infini.py); here the two are combined.
-/
namespace Infini
open List PlotPrep

/-- **order of `init_mapped_dim`** (translated body, at the model's operations): select / order → drop the all-NaN
coordinates → record the domain → record the size → assign the style values.  The state reached is the model's; the
domain recorded for the property is the list of coordinates that are left in the working dataset (in particular none
that was dropped), its size is their number, and as many default style values are generated and kept -/
theorem c18_init_order_src (prop : String) (m : Mapping) (custom : Bool) (ps : PState) (hv : Valid ps.st m) :
    ∃ ps', Gen.infInitMapped (mapOps prop m custom) ps = .ok ps' ∧
      ps'.st = initMappedDim ps.st prop m ∧
      lookupLast ps'.domains prop = some (((ps'.st.md? (dimName m)).map (·.entries)).getD []) ∧
      lookupLast ps'.sizes prop = some (((ps'.st.md? (dimName m)).map (·.entries)).getD []).length ∧
      (custom = false →
        lookupLast ps'.nvals prop = some (((ps'.st.md? (dimName m)).map (·.entries)).getD []).length ∧
        ps'.ndefaults = some (((ps'.st.md? (dimName m)).map (·.entries)).getD []).length) ∧
      lookupLast ps'.attrs prop = some (some (dimName m)) ∧ ps'.consts = ps.consts := by
  refine ⟨_, infInitMapped_spec prop m custom ps hv, rfl, ?_, ?_, ?_, ?_, rfl⟩
  · simp only [expected, lookupLast_append_self]
  · simp only [expected, lookupLast_append_self]
  · intro hc; subst hc
    simp only [expected, lookupLast_append_self, Bool.false_eq_true, if_false, and_self]
  · simp only [expected, lookupLast_append_self]

/-- **each slice once** (translated iteration): the drawn lines are, in the order of the product the source iterates
(`itertools.product(*self.ranges)`, `self.ranges` = one range per iterated dimension), exactly its elements that have
data — each once -/
theorem c18_each_slice_once_src (f : Final) :
    f.lines.map (·.loc) = (Gen.infIter (Gen.infRanges (f.remaining.map (·.entries.length)))).filter
      (fun ch => (f.mask ch).any id) ∧
    (f.lines.map (·.loc)).Nodup ∧
    (∀ ch, ch ∈ Gen.infIter (Gen.infRanges (f.remaining.map (·.entries.length))) → (f.mask ch).any id = true →
      (f.lines.filter (fun l => l.loc == ch)).length = 1) := by
  rw [← choices_refines]
  exact ⟨(c18_each_slice_once f).1, (c18_each_slice_once f).2.1, (c18_each_slice_once f).2.2.2⟩

/-- **panel** (translated loop body): a line is drawn in the axes `self.axs[i, j]` the source picks for its
coordinates, and those exist in the grid -/
theorem c18_panel_src (f : Final) :
    ∀ l ∈ f.lines, l.i = (Gen.infLineIdx f.remNames f.attr l.loc).i ∧ l.j = (Gen.infLineIdx f.remNames f.attr l.loc).j ∧
      (Gen.infLineIdx f.remNames f.attr l.loc).i < f.nrows ∧ (Gen.infLineIdx f.remNames f.attr l.loc).j < f.ncols ∧
      (Gen.infLineIdx f.remNames f.attr l.loc).isel = f.remNames.zip l.loc := by
  intro l hl
  obtain ⟨hi, hj, hr, hc⟩ := c18_panel f l hl
  obtain ⟨pi, pj, ps⟩ := lineIdx_panel f l.loc
  rw [pi, pj]
  exact ⟨hi, hj, hi ▸ hr, hj ▸ hc, ps⟩

/-- **style** (translated loop body): the style a slice gets is determined by the indices the source reads from `loc`:
the same index is used into the domain and into the style values of a property, it is the coordinate index of the
dimension mapped to the property, and the model's style is computed from exactly these indices.  `hrem` fails when
`aggregate` names a mapped dimension (the property then has an attribute and no iterated position) -/
theorem c18_style_src (f : Final) (ch : List Nat)
    (hrem : ∀ p ∈ PROPS, (f.propPos p).isSome = (f.attr p).isSome) :
    (f.style ch).color = idxOf (Gen.infLineIdx f.remNames f.attr ch).vals "color" ∧
    (f.style ch).marker = (idxOf (Gen.infLineIdx f.remNames f.attr ch).vals "marker").map markerOf ∧
    (f.style ch).linestyle = (idxOf (Gen.infLineIdx f.remNames f.attr ch).vals "linestyle").map linestyleOf ∧
    (f.style ch).markersize =
      (idxOf (Gen.infLineIdx f.remNames f.attr ch).vals "markersize").map (linspace 3 9 (f.propSize "markersize")) ∧
    (f.style ch).linewidth =
      (idxOf (Gen.infLineIdx f.remNames f.attr ch).vals "linewidth").map (linspace 1 3 (f.propSize "linewidth")) ∧
    (∀ p ∈ ["color", "marker", "markersize", "markeredgecolor", "linewidth", "linestyle"],
      idxOf (Gen.infLineIdx f.remNames f.attr ch).doms p = idxOf (Gen.infLineIdx f.remNames f.attr ch).vals p) := by
  refine ⟨?_, ?_, ?_, ?_, ?_, fun p hp => (lineIdx_style f ch p hp).2⟩ <;>
    simp only [Final.style] <;> rw [propIdx_refines f ch _ (by simp) (hrem _ (by simp [PROPS]))]

/-- **default style values** (translated calls of `__init__`): marker and line style cycle through the default tables,
marker size and line width are `np.linspace(a, b, N)` with the end points of the source, `N` the number of surviving
coordinates — which is what the model's style uses; and the properties are initialised in the model's order -/
theorem c18_style_defaults_src (f : Final) (ch : List Nat) :
    Gen.infInitCalls.map (·.1) = PROPS ∧
    defaultOf "marker" = some (.cycle "_MARKERS_DEFAULT") ∧ defaultOf "linestyle" = some (.cycle "_LINESTYLES_DEFAULT") ∧
    (∀ a b, defaultOf "markersize" = some (.linspace a b) →
      (f.style ch).markersize = (f.propIdx "markersize" ch).map (linspace a b (f.propSize "markersize"))) ∧
    (∀ a b, defaultOf "linewidth" = some (.linspace a b) →
      (f.style ch).linewidth = (f.propIdx "linewidth" ch).map (linspace a b (f.propSize "linewidth"))) := by
  obtain ⟨h1, h2, h3, h4⟩ := styleDefaults_refines
  refine ⟨initOrder_refines, h1, h2, ?_, ?_⟩ <;>
    (intro a b h
     simp only [h3, h4, Option.some.injEq, Gen.StyleDefault.linspace.injEq] at h
     obtain ⟨rfl, rfl⟩ := h
     simp [Final.style])

/-- **histogram** (translated call): what the source's `np.histogram(x, bins=self.bins, density=self.bins_density)[0]`
yields for the finite values of a slice is the model's `histY`, whose counts and normalisation are `c18_hist_counts` /
`c18_hist_total`: the divisor of a density is the number of values COUNTED (those inside the bin range) times the width -/
theorem c18_hist_src (flag : Bool) (edges vals : List Rat) :
    histOf Gen.infHistCall flag edges vals = histY flag edges vals ∧
    (histOf Gen.infHistCall false edges vals = (counts edges vals).map .count) ∧
    ((counts edges vals).sum ≠ 0 →
      histOf Gen.infHistCall true edges vals = List.zipWith (fun (c : Nat) (w : Rat) =>
        YVal.dens ((c : Rat) / (((counts edges vals).sum : Nat) * w))) (counts edges vals) (widths edges)) := by
  refine ⟨histCall_refines flag edges vals, ?_, ?_⟩
  · rw [histCall_refines]; exact (c18_hist_counts edges vals).2.2.2.1
  · intro h; rw [histCall_refines]; exact (c18_hist_counts edges vals).2.2.2.2 h

/-! ### Non-vacuity -/

def exPS : PState := { st := initState exDS exReq }

example : Valid exPS.st { dims := ["a"] } := by unfold Valid; decide

-- the all-NaN coordinate "r" of `exDS` is not in the recorded domain; 2 marker values are generated
example : (Gen.infInitMapped (mapOps "marker" { dims := ["a"] } false) exPS).toOption.map
    (fun ps => (ps.domains, ps.sizes, ps.nvals)) = some ([("marker", [[0], [1]])], [("marker", 2)], [("marker", 2)]) := by
  decide

example : Gen.infIter (Gen.infRanges [2, 3]) = [[0, 0], [0, 1], [0, 2], [1, 0], [1, 1], [1, 2]] := by decide

example : (fun r : Gen.LineIdx => (r.i, r.j, r.vals)) (Gen.infLineIdx ["a", "b", "c"]
    (fun p => if p == "row" then some "b" else if p == "col" then some "a" else if p == "marker" then some "c" else none)
    [4, 5, 6]) = (5, 4, [("marker", 6)]) := by decide

-- the hypothesis of `c18_style_src` holds for the example, and the second line gets the second marker
example : ∀ p ∈ PROPS, ((finalOf exDS exReq).propPos p).isSome = ((finalOf exDS exReq).attr p).isSome := by decide

example : idxOf (Gen.infLineIdx (finalOf exDS exReq).remNames (finalOf exDS exReq).attr [1]).vals "marker" = some 1 ∧
    ((finalOf exDS exReq).style [1]).marker = some 1 := by decide

example : defaultOf "markersize" = some (.linspace 3 9) := styleDefaults_refines.2.2.1

example : histOf Gen.infHistCall false [0, 1, 2] [0, 1 / 2, 1, 2, 3] = [.count 2, .count 2] := by decide +kernel

end Infini
