import XyzProofs.Refine.Num
import XyzProofs.Props.C19
/-!
# C19 — the statements of `Props/C19.lean`, on the *translated source*

`Gen.rsUpdateFromIt`, `Gen.rsVar`, `Gen.rsErr`, `Gen.rsConverged`, `Gen.estimateFromRepeats` are the bodies of the
methods of `RunningStatistics` and of `estimate_from_repeats` in xyzpy/utils.py, translated statement by statement on
every run (harness/anchors_numfn.py).  `K` is any ordered field with square roots (`IsSqrt sqrt`), `inf` (what `np.inf`
stands for) is arbitrary, samples are rationals embedded in `K`.  `fn` is the stream `f 0, f 1, …` (its `n`-th call
returns `f n`); the second component of the result of `Gen.estimateFromRepeats` is the number of times `fn` was called.
-/
namespace Stats
open List

section generic
variable {K : Type} [Field K] [LinearOrder K] [IsStrictOrderedRing K]

/-- **variance / standard error of the translated methods** — a fresh object (`__init__`) fed a non-empty list through the
translated `update_from_it` reports, through the translated properties `var` and `err`, the whole-sample variance
`Σx²/n − (Σx/n)²` and a non-negative `err` whose square is `var / n` -/
theorem c19_src_var (abs sqrt : K → K) (hsqrt : IsSqrt sqrt) (inf : K) (l : List ℚ) (hl : l ≠ []) :
    let st := Gen.rsUpdateFromIt (Gen.rsInit (K := K)).1 (Gen.rsInit (K := K)).2.1 (Gen.rsInit (K := K)).2.2
      (l.map (Rat.cast : ℚ → K))
    st.1 = ((l.length : ℕ) : K) ∧
    Gen.rsVar abs sqrt inf st.1 st.2.1 st.2.2 = ((sumSq l / (l.length : ℚ) - (l.sum / (l.length : ℚ)) ^ 2 : ℚ) : K) ∧
    0 ≤ Gen.rsErr abs sqrt inf st.1 st.2.1 st.2.2 ∧
    Gen.rsErr abs sqrt inf st.1 st.2.1 st.2.2 * Gen.rsErr abs sqrt inf st.1 st.2.1 st.2.2
      = (((sumSq l / (l.length : ℚ) - (l.sum / (l.length : ℚ)) ^ 2) / (l.length : ℚ) : ℚ) : K) := by
  have hinit : Gen.rsInit (K := K) = RS.init.toK := rsInit_refines
  have h := rsUpdateFromIt_refines (K := K) RS.init l
  simp only [RS.toK] at hinit h
  simp only [hinit]
  rw [h]
  have hrun : RS.init.updateFromIt l = run l := rfl
  rw [hrun]
  have hc : (run l).count = (l.length : ℤ) := count_run l
  have hpos : 0 < (run l).count := by
    rw [hc]
    have : 0 < l.length := List.length_pos_iff.mpr hl
    exact_mod_cast this
  obtain ⟨hv, he⟩ := c19_var l hl
  obtain ⟨e0, esq⟩ := rsErr_sq abs sqrt hsqrt inf (run l) hpos (M2_nonneg l)
  refine ⟨by simp [hc], ?_, e0, ?_⟩
  · rw [rsVar_refines abs sqrt inf (run l) hpos.ne', hv]
  · rw [esq, he]

/-- non-vacuity: the translated methods *computed* over `ℚ` on `[1, 2, 6]` (over `ℝ`: `Props/C19Real.lean`) -/
example : Gen.rsVar (K := ℚ) id id 0 (Gen.rsUpdateFromIt (K := ℚ) 0 0 0 [1, 2, 6]).1
    (Gen.rsUpdateFromIt (K := ℚ) 0 0 0 [1, 2, 6]).2.1 (Gen.rsUpdateFromIt (K := ℚ) 0 0 0 [1, 2, 6]).2.2 = 14 / 3 := by
  decide +kernel

/-- **covariance of the translated `RunningCovariance`** — a fresh object fed two columns through the translated
`update_from_it` (`zip` stops at the shorter one) reports the whole-sample covariance of the pairs -/
theorem c19_src_covar (xs ys : List ℚ) (hl : xs.zip ys ≠ []) :
    let i := Gen.rcInit (K := K)
    let st := Gen.rcUpdateFromIt i.1 i.2.1 i.2.2.1 i.2.2.2 (xs.map (Rat.cast : ℚ → K)) (ys.map (Rat.cast : ℚ → K))
    let l := xs.zip ys
    st.1 = ((l.length : ℕ) : K) ∧
    Gen.rcCovar st.1 st.2.1 st.2.2.1 st.2.2.2
      = ((sumXY l / (l.length : ℚ) - (sumX l / (l.length : ℚ)) * (sumY l / (l.length : ℚ)) : ℚ) : K) := by
  have hinit : Gen.rcInit (K := K) = RC.init.toK := rcInit_refines
  have h := rcUpdateFromIt_refines (K := K) RC.init xs ys
  simp only [RC.toK] at hinit h
  simp only [hinit]
  rw [h]
  have hrun : RC.init.updateFromIt (xs.zip ys) = runCov (xs.zip ys) := rfl
  rw [hrun]
  have hc : (runCov (xs.zip ys)).count = ((xs.zip ys).length : ℤ) := (invC_run _).count
  refine ⟨by simp [hc], ?_⟩
  rw [(rcCovar_refines (K := K) (runCov (xs.zip ys))).1, (c19_covar _ hl).1]

example : Gen.rcCovar (K := ℚ) (Gen.rcUpdateFromIt (K := ℚ) 0 0 0 0 [1, 3, 2] [2, 6, 4]).1
    (Gen.rcUpdateFromIt (K := ℚ) 0 0 0 0 [1, 3, 2] [2, 6, 4]).2.1 (Gen.rcUpdateFromIt (K := ℚ) 0 0 0 0 [1, 3, 2] [2, 6, 4]).2.2.1
    (Gen.rcUpdateFromIt (K := ℚ) 0 0 0 0 [1, 3, 2] [2, 6, 4]).2.2.2 = 4 / 3 := by decide +kernel

/-- **stopping rule of the translated `estimate_from_repeats`**, `max_samples ≥ 1`, every `get=` mode.  There is an
iteration index `k` such that
* the function returns exactly what the statistics of the first `k + 1` samples give (`estResult`), and `fn` was called
  exactly `k + 1` times — never more than `max_samples`;
* the source's tests allow stopping at `k`: (`k > min_samples` and `converged(rtol, tol_scale * rtol)`) or `k ≥ max_samples − 1`;
* at no earlier iteration did they. -/
theorem c19_src_stop (sqrt : K → K) (hsqrt : IsSqrt sqrt) (inf : K) (f : ℕ → ℚ) (P : Params) (gs gm : Bool)
    (hmax : 1 ≤ P.maxSamples) :
    ∃ k : ℕ, (k : ℤ) < P.maxSamples ∧
      Gen.estimateFromRepeats (fun a => |a|) sqrt inf (fun n => ((f n : ℚ) : K)) (max 1 P.maxSamples.toNat)
          (P.rtol : K) (P.tolScale : K) gs gm P.minSamples P.maxSamples
        = estResult gs gm f (run (pre f (k + 1))) ∧
      (estResult (K := K) gs gm f (run (pre f (k + 1)))).2 = k + 1 ∧
      ((P.minSamples < (k : ℤ) ∧ (run (pre f (k + 1))).converged P.rtol (P.tolScale * P.rtol) = true)
          ∨ P.maxSamples - 1 ≤ (k : ℤ)) ∧
      ∀ j : ℕ, j < k →
        ¬ ((P.minSamples < (j : ℤ) ∧ (run (pre f (j + 1))).converged P.rtol (P.tolScale * P.rtol) = true)
            ∨ P.maxSamples - 1 ≤ (j : ℤ)) := by
  obtain ⟨k, hk, hest, _, hstop, hbefore⟩ := c19_stop f P hmax
  refine ⟨k, hk, ?_, ?_, hstop, hbefore⟩
  · rw [estimateFromRepeats_refines sqrt hsqrt inf f P gs gm, hest]
  · simp [estResult, count_run_pre]

/-- **how many samples are drawn** (`n` = number of calls of `fn`), exactly as the source's two tests imply:
`1 ≤ n ≤ max_samples`; the loop never stops for convergence before `i > min_samples`, i.e. a run that ends before
`max_samples` has drawn at least `min_samples + 2` samples and has converged on them; and a run whose statistics never
converge draws exactly `max_samples` (it always stops at `i = max_samples − 1`). -/
theorem c19_src_sample_count (sqrt : K → K) (hsqrt : IsSqrt sqrt) (inf : K) (f : ℕ → ℚ) (P : Params) (gs gm : Bool)
    (hmax : 1 ≤ P.maxSamples) :
    let n := (Gen.estimateFromRepeats (fun a => |a|) sqrt inf (fun n => ((f n : ℚ) : K)) (max 1 P.maxSamples.toNat)
          (P.rtol : K) (P.tolScale : K) gs gm P.minSamples P.maxSamples).2
    1 ≤ n ∧ (n : ℤ) ≤ P.maxSamples ∧
    ((n : ℤ) < P.maxSamples → P.minSamples + 2 ≤ (n : ℤ) ∧
        (run (pre f n)).converged P.rtol (P.tolScale * P.rtol) = true) ∧
    ((∀ j : ℕ, P.minSamples < (j : ℤ) → (run (pre f (j + 1))).converged P.rtol (P.tolScale * P.rtol) = false) →
        (n : ℤ) = P.maxSamples) := by
  obtain ⟨k, hk, hres, hn, hstop, hbefore⟩ := c19_src_stop sqrt hsqrt inf f P gs gm hmax
  simp only
  rw [hres, hn]
  refine ⟨by omega, by omega, ?_, ?_⟩
  · intro hlt
    rcases hstop with ⟨h1, h2⟩ | h
    · exact ⟨by omega, h2⟩
    · push_cast at hlt; omega
  · intro hnever
    rcases hstop with ⟨h1, h2⟩ | h
    · rw [hnever k h1] at h2; exact Bool.noConfusion h2
    · push_cast; omega

end generic
end Stats
