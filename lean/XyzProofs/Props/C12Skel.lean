import XyzModel.Crop
import XyzProofs.Lemmas.Attempt
/-!
`Gen.reapCombosSk`, `Gen.reapCombosToDsSk`, `Gen.reapRunnerSk`, `Gen.reapHarvestSk`, `Gen.reapSamplesSk` are the bodies
of `Crop.reap_combos`, `reap_combos_to_ds`, `reap_runner`, `reap_harvest`, `reap_samples` translated from the
repository source on every run into *effect skeletons* (harness/pysk2lean.py): the list of effects attempted, in
order, for every way the effects can fail (`fails : Eff → Bool` is arbitrary) and every option set; the inner calls are
calls between the skeletons with the arguments as the source passes them (`clean_up=False`, `clean_up=clean_up`, …).

C12 / C09 on them: each skeleton is a plan (`Lc.attempt`) whose list is read off the options — `reap*Sk_eq` —, and the
four statements are proved once for any plan that deletes at one place.
-/
namespace Skel
open Gen Lc

/-- split a trace at the first `deleteAll` -/
def splitDel : List Eff → Option (List Eff × List Eff)
  | [] => none
  | e :: es => if e = .deleteAll then some ([], es) else (splitDel es).map (fun p => (e :: p.1, p.2))

theorem splitDel_of_not_mem {tr : List Eff} (h : Eff.deleteAll ∉ tr) : splitDel tr = none := by
  induction tr with
  | nil => rfl
  | cons e es ih =>
    simp only [List.mem_cons, not_or] at h
    simp [splitDel, Ne.symm h.1, ih h.2]

theorem splitDel_append {pre : List Eff} (h : Eff.deleteAll ∉ pre) (suf : List Eff) :
    splitDel (pre ++ .deleteAll :: suf) = some (pre, suf) := by
  induction pre with
  | nil => simp [splitDel]
  | cons e es ih =>
    simp only [List.mem_cons, not_or] at h
    simp [splitDel, Ne.symm h.1, ih h.2]

/-- `splitDel_spec` and `splitDel_none` say what `splitDel` computes: `DeleteLast` and `Before` are read through them -/
theorem splitDel_spec (tr pre suf : List Eff) (h : splitDel tr = some (pre, suf)) :
    tr = pre ++ Eff.deleteAll :: suf ∧ Eff.deleteAll ∉ pre := by
  induction tr generalizing pre with
  | nil => simp [splitDel] at h
  | cons e es ih =>
    by_cases he : e = .deleteAll
    · simp only [splitDel, he, if_true, Option.some.injEq, Prod.mk.injEq] at h
      simp [he, ← h.1, h.2]
    · simp only [splitDel, he, if_false, Option.map_eq_some_iff, Prod.mk.injEq, Prod.exists] at h
      obtain ⟨p, s, hs, rfl, rfl⟩ := h
      obtain ⟨h1, h2⟩ := ih p hs
      exact ⟨by rw [h1]; rfl, by simpa [Ne.symm he] using h2⟩

theorem splitDel_none (tr : List Eff) (h : splitDel tr = none) : Eff.deleteAll ∉ tr := by
  induction tr with
  | nil => simp
  | cons e es ih =>
    by_cases he : e = .deleteAll
    · simp [splitDel, he] at h
    · simp only [splitDel, he, if_false, Option.map_eq_none_iff] at h
      simpa [Ne.symm he] using ih h

/-- deletion, if it is attempted at all, is the last effect, and every effect before it went through -/
def DeleteLast (fails : Eff → Bool) (tr : List Eff) : Prop :=
  match splitDel tr with
  | none => True
  | some (pre, suf) => suf = [] ∧ pre.all (fun e => !fails e) = true

/-- … and these effects all came before it -/
def Before (needed : List Eff) (tr : List Eff) : Prop :=
  match splitDel tr with
  | none => True
  | some (pre, _) => ∀ e ∈ needed, e ∈ pre

/-- a body that raised has removed nothing, unless the removal itself is what raised -/
def ErrorKeeps (fails : Eff → Bool) (out : List Eff × Option PyErr) : Prop :=
  out.2 ≠ none → (Eff.deleteAll ∉ out.1 ∨ fails .deleteAll = true)

/-- the part of a plan that an option switches on -/
def opt (b : Bool) (e : Eff) : List Eff := if b then [e] else []

@[simp] theorem mem_opt (b : Bool) (e x : Eff) : x ∈ opt b e ↔ b = true ∧ x = e := by
  cases b <;> simp [opt]

/-- the plan "`P`, then `deleteAll` if `d`, then `Q`" -/
def delPlan (P : List Eff) (d : Bool) (Q : List Eff) : List Eff := P ++ opt d .deleteAll ++ Q

section
variable (fails : Eff → Bool) {P Q : List Eff} (hP : Eff.deleteAll ∉ P) (hQ : Eff.deleteAll ∉ Q) (d : Bool)
include hP hQ

theorem splitDel_attempt :
    splitDel (attempt fails (delPlan P d Q) []).1 = none ∨
    ∃ suf, splitDel (attempt fails (delPlan P d Q) []).1 = some (P, suf) ∧
      (∀ e ∈ P, fails e = false) ∧ (Q = [] → suf = []) := by
  rw [delPlan, List.append_assoc, attempt_append]
  -- the run either gets through `P`, and then `d` decides, or stops inside `P`: no deletion in the trace
  rcases attempt_cases fails P [] with ⟨h1, h2⟩ | ⟨pre, e, suf, -, -, -, h4⟩
  · rw [h2, skBindG_ok, List.nil_append]
    cases d with
    | false =>
      refine .inl (splitDel_of_not_mem fun hm => ?_)
      rcases attempt_mem fails _ _ _ hm with h | h
      · exact hP h
      · exact hQ (by simpa using h)
    | true =>
      obtain ⟨s, hs, hnil⟩ : ∃ s, (attempt fails (opt true .deleteAll ++ Q) P).1 = P ++ .deleteAll :: s ∧
          (Q = [] → s = []) := by
        simp only [opt, if_true, List.singleton_append, attempt]
        split
        · exact ⟨[], by simp, fun _ => rfl⟩
        · rcases attempt_cases fails Q (P ++ [.deleteAll]) with ⟨_, h⟩ | ⟨pre, e, _, rfl, _, _, h⟩
          · exact ⟨Q, by simp [h], id⟩
          · exact ⟨pre ++ [e], by simp [h], by simp⟩
      exact .inr ⟨s, by rw [hs, splitDel_append hP], h1, hnil⟩
  · rw [h4, skBindG_err]
    refine .inl (splitDel_of_not_mem fun hm => hP ?_)
    exact (attempt_mem fails P [] _ (by rw [h4]; exact hm)).resolve_left (by simp)

theorem attempt_before {needed : List Eff} (hn : ∀ e ∈ needed, e ∈ P) :
    Before needed (attempt fails (delPlan P d Q) []).1 := by
  rcases splitDel_attempt fails hP hQ d with h | ⟨suf, h, -, -⟩ <;> simp only [Before, h]
  exact hn

theorem attempt_deletes_iff (h : (attempt fails (delPlan P d Q) []).2 = none) :
    Eff.deleteAll ∈ (attempt fails (delPlan P d Q) []).1 ↔ d = true := by
  rw [attempt_ok_trace fails _ _ h]
  simp [delPlan, hP, hQ]

end

section
variable (fails : Eff → Bool) {P : List Eff} (hP : Eff.deleteAll ∉ P) (d : Bool)
include hP

theorem attempt_deleteLast : DeleteLast fails (attempt fails (delPlan P d []) []).1 := by
  rcases splitDel_attempt fails hP (Q := []) (by simp) d with h | ⟨suf, h, hok, hs⟩ <;> simp only [DeleteLast, h]
  exact ⟨hs rfl, by simpa using hok⟩

theorem attempt_errorKeeps : ErrorKeeps fails (attempt fails (delPlan P d []) []) := by
  intro herr
  rw [delPlan, List.append_nil] at herr ⊢
  cases d with
  | false =>
    refine .inl fun hm => ?_
    rcases attempt_mem fails _ _ _ hm with h | h
    · simp at h
    · exact hP (by simpa using h)
  | true =>
    by_cases hm : Eff.deleteAll ∈ (attempt fails (P ++ opt true .deleteAll) []).1
    · exact .inr (attempt_last_raised hP (by simp) herr hm)
    · exact .inl hm

end

/-! Once the options are fixed, a skeleton and its plan are by definition the same chain of `if fails e`: after the case split
on the options (never on `fails`) the two sides are closed by `rfl`, whatever shape the translated text has.  A skeleton
that calls another one is its callee's plan inside what it does itself (`attempt_append`). -/

/-- what every reap attempts before anything can be removed.  `Lc.reapSpec` (Refine/Lifecycle.lean) describes the same
methods as translated a second time, with the values their effects carry: a change to a reap method touches both.  Neither
is defined from the other: `reapSpec` also has the parser calls and the `KeyError` exits of the info record, which these
skeletons do not record, and each description is compared by `rfl` with its own translated text, so a map between the
two effect types would add a lemma and remove none. -/
def gatherPlan (ai label : Bool) : List Eff :=
  .checkReady :: opt ai .allNan ++ .loadInfo :: .gather :: opt label .label ++ [.reaperExit]

@[simp] theorem mem_gatherPlan (ai label : Bool) (x : Eff) : x ∈ gatherPlan ai label ↔
    x = .checkReady ∨ (ai = true ∧ x = .allNan) ∨ x = .loadInfo ∨ x = .gather ∨ (label = true ∧ x = .label) ∨
      x = .reaperExit := by
  simp [gatherPlan]

theorem reapCombosSk_eq (fails : Eff → Bool) (wait : Bool) (cu : Option Bool) (ai : Bool) (tr : List Eff) :
    reapCombosSk fails wait cu ai tr =
      attempt fails (delPlan (gatherPlan ai false) (Crop.cleanUpResolved cu ai) []) tr := by
  rcases cu with _ | _ | _ <;> cases ai <;> rfl

theorem reapCombosToDsSk_eq (fails : Eff → Bool) (wait : Bool) (cu : Option Bool) (ai toDf parse : Bool)
    (tr : List Eff) :
    reapCombosToDsSk fails wait cu ai toDf parse tr =
      attempt fails (delPlan (gatherPlan ai true) (Crop.cleanUpResolved cu ai) []) tr := by
  rcases cu with _ | _ | _ <;> cases ai <;> rfl

/-- `reap_runner` when the clean-up flag resolves to `d`: the info file is read for the constants, then the inner
`reap_combos_to_ds` (which cleans up), and the last result is recorded after it -/
def runnerPlan (d ai : Bool) : List Eff := delPlan (.loadInfo :: gatherPlan ai true) d [.setLast]

@[simp] theorem mem_runnerPlan (d ai : Bool) (x : Eff) : x ∈ runnerPlan d ai ↔
    x = .loadInfo ∨ x ∈ gatherPlan ai true ∨ (d = true ∧ x = .deleteAll) ∨ x = .setLast := by
  simp [runnerPlan, delPlan, or_assoc]

theorem reapRunnerSk_eq (fails : Eff → Bool) (wait : Bool) (cu : Option Bool) (ai toDf : Bool) (tr : List Eff) :
    reapRunnerSk fails wait cu ai toDf tr = attempt fails (runnerPlan (Crop.cleanUpResolved cu ai) ai) tr := by
  have h := reapCombosToDsSk_eq fails wait cu ai toDf false (tr ++ [.loadInfo])
  rw [delPlan, List.append_nil] at h
  -- the plan, split where the callee begins and ends, with the callee put back; with the options fixed the callee
  -- computes, so also the committed text of the caller, which names `Gen.Default.reapCombosToDsSk`, is compared by `rfl`
  rw [runnerPlan, delPlan, List.cons_append, List.cons_append, attempt, attempt_append, ← h, ← skBind_eq_skBindG]
  rcases cu with _ | _ | _ <;> cases ai <;> rfl

/-- `reap_harvest` runs `reap_runner(clean_up=False)`, syncs, and only then cleans up -/
theorem reapHarvestSk_eq (fails : Eff → Bool) (wait sync : Bool) (cu : Option Bool) (ai : Bool) (tr : List Eff) :
    reapHarvestSk fails wait sync cu ai tr =
      attempt fails (delPlan (runnerPlan false ai ++ opt sync .sync) (Crop.cleanUpResolved cu ai) []) tr := by
  have h : reapRunnerSk fails wait (some false) ai false tr = attempt fails (runnerPlan false ai) tr :=
    reapRunnerSk_eq fails wait (some false) ai false tr
  rw [delPlan, List.append_assoc, List.append_assoc, attempt_append, ← h, ← skBind_eq_skBindG]
  rcases cu with _ | _ | _ <;> cases ai <;> cases sync <;> rfl

/-- `reap_samples`: as `reap_harvest`, and the Sampler's last result is recorded before the sync -/
theorem reapSamplesSk_eq (fails : Eff → Bool) (wait sync : Bool) (cu : Option Bool) (ai : Bool) (tr : List Eff) :
    reapSamplesSk fails wait sync cu ai tr =
      attempt fails (delPlan (runnerPlan false ai ++ .setLast :: opt sync .sync) (Crop.cleanUpResolved cu ai) []) tr := by
  have h : reapRunnerSk fails wait (some false) ai true tr = attempt fails (runnerPlan false ai) tr :=
    reapRunnerSk_eq fails wait (some false) ai true tr
  rw [delPlan, List.append_assoc, List.append_assoc, attempt_append, ← h, ← skBind_eq_skBindG]
  rcases cu with _ | _ | _ <;> cases ai <;> cases sync <;> rfl

theorem reapCombos_deleteLast (fails : Eff → Bool) (wait : Bool) (cu : Option Bool) (ai : Bool) :
    DeleteLast fails (reapCombosSk fails wait cu ai []).1 := by
  rw [reapCombosSk_eq]
  exact attempt_deleteLast fails (by simp) _

theorem reapCombos_deletes_iff (fails : Eff → Bool) (wait : Bool) (cu : Option Bool) (ai : Bool)
    (h : (reapCombosSk fails wait cu ai []).2 = none) :
    (Eff.deleteAll ∈ (reapCombosSk fails wait cu ai []).1 ↔ Crop.cleanUpResolved cu ai = true) := by
  rw [reapCombosSk_eq] at h ⊢
  exact attempt_deletes_iff fails (by simp) (by simp) _ h

theorem reapCombos_errorKeeps (fails : Eff → Bool) (wait : Bool) (cu : Option Bool) (ai : Bool) :
    ErrorKeeps fails (reapCombosSk fails wait cu ai []) := by
  rw [reapCombosSk_eq]
  exact attempt_errorKeeps fails (by simp) _

/-- the results are gathered and the Reaper's left-over check has passed before anything is removed -/
theorem reapCombos_before (fails : Eff → Bool) (wait : Bool) (cu : Option Bool) (ai : Bool) :
    Before [.checkReady, .gather, .reaperExit] (reapCombosSk fails wait cu ai []).1 := by
  rw [reapCombosSk_eq]
  exact attempt_before fails (by simp) (by simp) _ (by simp)

/-- for `reap_runner`, `setLast` follows the inner clean-up, so `DeleteLast` and `ErrorKeeps` are false for it as stated;
`DeleteLast` holds of the inner `reap_combos_to_ds` (and `c12_reap_deleteLast`, `c12_reap_errorKeeps` exclude the Runner) -/
theorem reapRunner_deleteLast_partial (fails : Eff → Bool) (wait : Bool) (cu : Option Bool) (ai toDf : Bool) :
    -- the runner's last result is recorded *after* the inner reap has cleaned up: deletion is the last effect of the
    -- inner `reap_combos_to_ds`, followed only by `setLast`
    DeleteLast fails (reapCombosToDsSk fails wait cu ai toDf false []).1 := by
  rw [reapCombosToDsSk_eq]
  exact attempt_deleteLast fails (by simp) _

theorem reapRunner_deletes_iff (fails : Eff → Bool) (wait : Bool) (cu : Option Bool) (ai toDf : Bool)
    (h : (reapRunnerSk fails wait cu ai toDf []).2 = none) :
    (Eff.deleteAll ∈ (reapRunnerSk fails wait cu ai toDf []).1 ↔ Crop.cleanUpResolved cu ai = true) := by
  rw [reapRunnerSk_eq, runnerPlan] at h ⊢
  exact attempt_deletes_iff fails (by simp) (by simp) _ h

theorem reapRunner_before (fails : Eff → Bool) (wait : Bool) (cu : Option Bool) (ai toDf : Bool) :
    Before [.checkReady, .gather, .label, .reaperExit] (reapRunnerSk fails wait cu ai toDf []).1 := by
  rw [reapRunnerSk_eq, runnerPlan]
  exact attempt_before fails (by simp) (by simp) _ (by simp)

theorem reapHarvest_deleteLast (fails : Eff → Bool) (wait sync : Bool) (cu : Option Bool) (ai : Bool) :
    DeleteLast fails (reapHarvestSk fails wait sync cu ai []).1 := by
  rw [reapHarvestSk_eq]
  exact attempt_deleteLast fails (by simp) _

theorem reapHarvest_deletes_iff (fails : Eff → Bool) (wait sync : Bool) (cu : Option Bool) (ai : Bool)
    (h : (reapHarvestSk fails wait sync cu ai []).2 = none) :
    (Eff.deleteAll ∈ (reapHarvestSk fails wait sync cu ai []).1 ↔ Crop.cleanUpResolved cu ai = true) := by
  rw [reapHarvestSk_eq] at h ⊢
  exact attempt_deletes_iff fails (by simp) (by simp) _ h

/-- **the crop is deleted only after the new data was merged and saved** -/
theorem reapHarvest_sync_before_delete (fails : Eff → Bool) (wait : Bool) (cu : Option Bool) (ai : Bool) :
    Before [.checkReady, .gather, .label, .reaperExit, .setLast, .sync] (reapHarvestSk fails wait true cu ai []).1 := by
  rw [reapHarvestSk_eq]
  exact attempt_before fails (by simp) (by simp) _ (by simp)

theorem reapHarvest_errorKeeps (fails : Eff → Bool) (wait sync : Bool) (cu : Option Bool) (ai : Bool) :
    ErrorKeeps fails (reapHarvestSk fails wait sync cu ai []) := by
  rw [reapHarvestSk_eq]
  exact attempt_errorKeeps fails (by simp) _

theorem reapSamples_deleteLast (fails : Eff → Bool) (wait sync : Bool) (cu : Option Bool) (ai : Bool) :
    DeleteLast fails (reapSamplesSk fails wait sync cu ai []).1 := by
  rw [reapSamplesSk_eq]
  exact attempt_deleteLast fails (by simp) _

theorem reapSamples_deletes_iff (fails : Eff → Bool) (wait sync : Bool) (cu : Option Bool) (ai : Bool)
    (h : (reapSamplesSk fails wait sync cu ai []).2 = none) :
    (Eff.deleteAll ∈ (reapSamplesSk fails wait sync cu ai []).1 ↔ Crop.cleanUpResolved cu ai = true) := by
  rw [reapSamplesSk_eq] at h ⊢
  exact attempt_deletes_iff fails (by simp) (by simp) _ h

theorem reapSamples_sync_before_delete (fails : Eff → Bool) (wait : Bool) (cu : Option Bool) (ai : Bool) :
    Before [.checkReady, .gather, .label, .reaperExit, .setLast, .sync] (reapSamplesSk fails wait true cu ai []).1 := by
  rw [reapSamplesSk_eq]
  exact attempt_before fails (by simp) (by simp) _ (by simp)

theorem reapSamples_errorKeeps (fails : Eff → Bool) (wait sync : Bool) (cu : Option Bool) (ai : Bool) :
    ErrorKeeps fails (reapSamplesSk fails wait sync cu ai []) := by
  rw [reapSamplesSk_eq]
  exact attempt_errorKeeps fails (by simp) _

/-- the closing step of `sk_step` and `sk_close`: the predicates and the clean-up flag unfolded, then `simp_all` -/
macro "sk_simp" : tactic => `(tactic|
  simp_all [DeleteLast, Before, ErrorKeeps, splitDel, Crop.cleanUpResolved, Gen.cleanUpDefault, Gen.Default.cleanUpDefault])

/-- one effect of `sk_close`: split on whether it raises (the branch in which it does ends the body there) -/
macro "sk_step " t:term : tactic => `(tactic|
  all_goals (cases hf : $t <;> first | (sk_simp; done) | sk_simp | skip))

/-- For a statement about the unfolded reap skeletons that is not a statement about `attempt`: decide effect by effect,
in the order they can occur, whether it raises.  Nothing in this file needs it. -/
macro "sk_close " f:ident : tactic => `(tactic|
  (sk_step ($f Eff.loadInfo)
   sk_step ($f Eff.checkReady)
   sk_step ($f Eff.allNan)
   sk_step ($f Eff.gather)
   sk_step ($f Eff.label)
   sk_step ($f Eff.reaperExit)
   sk_step ($f Eff.setLast)
   sk_step ($f Eff.sync)
   sk_step ($f Eff.deleteAll)
   all_goals (first | done | sk_simp)))

/-! Non-vacuity: a run in which everything goes through and the default options delete the crop last. -/
example : (reapHarvestSk (fun _ => false) false true none false []).1
    = [.loadInfo, .checkReady, .loadInfo, .gather, .label, .reaperExit, .setLast, .sync, .deleteAll] := by
  rfl
example : (reapHarvestSk (fun e => e == .sync) false true none false []) =
    ([.loadInfo, .checkReady, .loadInfo, .gather, .label, .reaperExit, .setLast, .sync], some .other) := by
  rfl

end Skel
