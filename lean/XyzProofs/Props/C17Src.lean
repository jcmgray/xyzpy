import XyzProofs.Props.C17
import XyzProofs.Refine.PlotSrc
/-!
# C17 on the TRANSLATED source (xyzpy/plot/core.py, harness/anchors_plotsrc.py)

The `Gen.pl*` functions are regenerated from the source on every run.  Part 1: the generators `gen_xy` / `gen_x` over
ARBITRARY dataset operations `o : Gen.PlotOps …` yield one series per z value, in order, series `k` from z value `k` alone.
Part 2: the translated preparation functions compute what `XyzModel/PlotPrep.lean` computes (for operations whose coordinate
values are the model's: `ModelCoords`), so `c17_series_count_order_labels`, `c17_legend_or_colorbar`, … speak about the source;
at the model's own operations (`srcOps`, `Refine/PlotSrc.lean`) the whole generator yields the model's series, for a z coordinate
(`c17_src_xy_refines`).  The loop machinery (`YieldsOne`, `plLoop_per_elem`, `shiftOps`) is in `Lemmas/PlotSrc.lean`.
-/
namespace PlotPrep
open List Gen

/-! ## Part 1 — any operations -/

section Abstract
variable {D A F M C Z : Type}

/-- **one series per z value, in order, each made from its own z value** (translated `gen_xy`, any dataset operations):
a successful run of the generator over `zVals` yields exactly `zVals.length` series, and series `k` is exactly what the
generator yields when run on the single z value `zVals[k]` at position `k`.  (A `continue` that skips a series, a loop
over the reversed values, a second `yield` all break this.) -/
theorem c17_src_genxy_series_per_z (o : PlotOps D A F M C Z) (ds : D) (zVals : List (PZ Z)) (multiVar : Bool)
    (xCoo yCoo : String) (zCoo cCoo yErr xErr : Option String) (mode : String) (r : List (List (String × F)) × List C)
    (h : Gen.plGenXY o ds zVals multiVar xCoo yCoo zCoo cCoo yErr xErr mode = .ok r) :
    r.1.length = zVals.length ∧
    ∀ k (hk : k < zVals.length), ∃ d cc,
      Gen.plGenXY (shiftOps o k) ds [zVals[k]] multiVar xCoo yCoo zCoo cCoo yErr xErr mode = .ok ([d], cc) ∧
      r.1[k]? = some d := by
  simp only [Gen.plGenXY, Gen.Default.plGenXY] at h ⊢
  exact plLoop_per_elem _ _ _ h (by intro i z; yields_one)

/-- the same for the histogram generator `gen_x` -/
theorem c17_src_genx_series_per_z (o : PlotOps D A F M C Z) (ds : D) (zVals : List (PZ Z)) (multiVar : Bool)
    (xCoo yCoo : String) (zCoo cCoo yErr xErr : Option String) (mode : String) (r : List (List (String × F)) × List C)
    (h : Gen.plGenX o ds zVals multiVar xCoo yCoo zCoo cCoo yErr xErr mode = .ok r) :
    r.1.length = zVals.length ∧
    ∀ k (hk : k < zVals.length), ∃ d cc,
      Gen.plGenX (shiftOps o k) ds [zVals[k]] multiVar xCoo yCoo zCoo cCoo yErr xErr mode = .ok ([d], cc) ∧
      r.1[k]? = some d := by
  simp only [Gen.plGenX, Gen.Default.plGenX] at h ⊢
  exact plLoop_per_elem _ _ _ h (by intro i z; yields_one)

end Abstract

/-! ## Part 2 — the translated functions compute what the model computes -/

/-- **legend / colour bar**: the translated body of `calc_use_legend_or_colorbar` (truth values of its two results) is the
model's `legendOrColorbar`; hence `c17_legend_or_colorbar` is a statement about the source -/
theorem c17_src_legend_refines (n : Nat) (legend colorbar : Option Bool) (hasC colorsTrue : Bool) :
    ((Gen.plLegend n legend colorbar hasC colorsTrue).1.getD false,
     (Gen.plLegend n legend colorbar hasC colorsTrue).2.getD false) =
      legendOrColorbar n legend colorbar hasC colorsTrue := by
  simp only [Gen.plLegend, Gen.Default.plLegend, legendOrColorbar, Gen.autoLegend, Gen.Default.autoLegend]
  -- the number of series enters through the two comparisons only (the second only when the first holds); what is left is
  -- a finite table
  by_cases h1 : (1 : Int) < (n : Int)
  case' pos => by_cases h2 : (n : Int) ≤ 10
  all_goals
    simp only [*, decide_true, decide_false, Bool.false_and, Bool.and_false]
    rcases legend with _ | _ | _ <;> rcases colorbar with _ | _ | _ <;> cases hasC <;> cases colorsTrue <;> rfl

/-- the rule on the translated body directly: with no explicit choice 2..10 series get a legend; explicit choices are honoured -/
theorem c17_src_legend_rule (n : Nat) (hasC colorsTrue : Bool) :
    (Gen.plLegend n none none hasC colorsTrue).1 = some (decide (1 < n ∧ n ≤ 10)) ∧
    (∀ a b, Gen.plLegend n (some a) (some b) hasC colorsTrue = (some a, some b)) := by
  simp only [Gen.plLegend, Gen.Default.plLegend]
  refine ⟨?_, ?_⟩
  · by_cases h1 : 1 < n <;> by_cases h2 : n ≤ 10 <;> simp [h1, h2] <;> omega
  · intro a b; cases a <;> cases b <;> simp

example : Gen.plLegend 10 none none false true = (some true, some false) := by decide
example : Gen.plLegend 11 none none false true = (some false, some true) := by decide
example : Gen.plLegend 3 none (some true) false false = (some false, some true) := by decide

/-- the `x` / `y` arguments of the model's call, as the dynamically typed arguments of the source -/
def yArg (call : Call) : NameArg := if call.multi && call.kind != .histogram then .many call.y else .one call.y1
def xArg (call : Call) : NameArg := if call.multi && call.kind == .histogram then .many call.x else .one call.x1

/-- a z value of the source as the model's -/
def zOf : PZ (Nat × String) → ZVal
  | .coord (i, l) => .coord i l
  | .name s => .var s
  | .none => .single

section ZVals
variable {D A F M C : Type}

/-- **which case gives the z values** (translated `prepare_z_vals`): the z coordinate's values in the dataset's order,
else the several y names, else the several x names (histogram), else the single `None`; with the multi-variable flag -/
theorem c17_src_zvals_refines (o : PlotOps D A F M C (Nat × String)) (ds : D) (m : DS) (call : Call)
    (ho : ModelCoords o ds m) (grid : Bool) (mode : String) :
    ∃ zs, Gen.plZVals o ds call.z (yArg call) (xArg call) grid mode = .ok (call.z.isNone && call.multi, zs) ∧
      zs.map zOf = prepareZVals m call := by
  simp only [Gen.plZVals, Gen.Default.plZVals, yArg, xArg, prepareZVals, bind, Except.bind, pure, Except.pure]
  cases hz : call.z with
  | some z =>
    refine ⟨_, rfl, ?_⟩
    simp only [ho.1]
    apply ext_getElem <;> simp [zOf]
  | none =>
    cases hm : call.multi <;> by_cases hk : call.kind = .histogram <;>
      simp [hk, zOf, Function.comp_def]

/-- the order of the z values on the translated body, for ANY operations: exactly the coordinate's values, in order -/
theorem c17_src_zvals_order {Z : Type} (o : PlotOps D A F M C Z) (ds : D) (z : String) (yCoo xCoo : NameArg)
    (grid : Bool) (mode : String) :
    Gen.plZVals o ds (some z) yCoo xCoo grid mode = .ok (false, (o.coordValues ds z).map PZ.coord) := by
  simp only [Gen.plZVals, Gen.Default.plZVals, bind, Except.bind, pure, Except.pure]

/-- `k` labels taken from the iterator by `next` -/
def takeLabels : Nat → PLabels → Option (List (Option String))
  | 0, _ => some []
  | k + 1, it => match it.next with
    | some (a, it') => (takeLabels k it').map (a :: ·)
    | none => none

theorem takeLabels_finite (l : List (Option String)) : takeLabels l.length (.finite l) = some l := by
  induction l with
  | nil => rfl
  | cons a l ih => simp [takeLabels, PLabels.next, ih]

/-- **labels** (translated `prepare_z_labels`, any operations): without given labels and with a z coordinate or several
variables, the iterator holds exactly `str(z)` for each z value, in the order of the z values: taking one label per
series gives series `k` the label of z value `k` -/
theorem c17_src_zlabels_order {Z : Type} (o : PlotOps D A F M C Z) (zCoo : Option String) (multiVar : Bool)
    (zVals : List (PZ Z)) (h : zCoo.isSome || multiVar) :
    ∃ it, Gen.plZLabels o none zCoo multiVar zVals = .ok it ∧
      takeLabels zVals.length it = some (zVals.map fun z => some (PZ.key o.str z)) := by
  refine ⟨.finite (zVals.map fun z => some (PZ.key o.str z)), ?_, ?_⟩
  · simp only [Gen.plZLabels, Gen.Default.plZLabels, bind, Except.bind, pure, Except.pure]
    cases zCoo <;> cases multiVar <;> simp_all
  · simpa using takeLabels_finite (zVals.map fun z => some (PZ.key o.str z))

/-- given labels are used as they are, in their order; no z coordinate and a single variable: no labels at all -/
theorem c17_src_zlabels_given {Z : Type} (o : PlotOps D A F M C Z) (zCoo : Option String) (multiVar : Bool)
    (zVals : List (PZ Z)) (given : List String) :
    Gen.plZLabels o (some given) zCoo multiVar zVals = .ok (.finite (given.map some)) ∧
    Gen.plZLabels o none none false zVals = .ok .repeatNone := by
  simp only [Gen.plZLabels, Gen.Default.plZLabels, bind, Except.bind, pure, Except.pure]
  simp

theorem zlabels_map_zOf (str : Nat × String → String) (hstr : ∀ v, str v = v.2) (zs : List (PZ (Nat × String)))
    (h : ZVal.single ∉ zs.map zOf) : prepareZLabels (zs.map zOf) = zs.map fun z => some (PZ.key str z) := by
  simp only [prepareZLabels, map_map]
  apply map_congr_left
  intro z hz
  rcases z with ⟨i, l⟩ | s | _
  · simp [zOf, PZ.key, hstr]
  · simp [zOf, PZ.key]
  · exact absurd (mem_map_of_mem (f := zOf) hz) h

/-- **count, order, labels on the source**: the z values of the translated `prepare_z_vals` and the labels the translated
`prepare_z_labels` hands out for them, one per series, are the model's `prepareZVals` / `prepareZLabels`: the right-hand
sides of `c17_series_count_order_labels` -/
theorem c17_src_labels_refine (o : PlotOps D A F M C (Nat × String)) (ds : D) (m : DS) (call : Call)
    (ho : ModelCoords o ds m) (grid : Bool) (mode : String) :
    ∃ mv zs it, Gen.plZVals o ds call.z (yArg call) (xArg call) grid mode = .ok (mv, zs) ∧
      Gen.plZLabels o none call.z mv zs = .ok it ∧
      zs.map zOf = prepareZVals m call ∧
      takeLabels zs.length it = some (prepareZLabels (prepareZVals m call)) := by
  obtain ⟨zs, h1, h2⟩ := c17_src_zvals_refines o ds m call ho grid mode
  by_cases hc : (call.z.isSome || (call.z.isNone && call.multi)) = true
  · obtain ⟨it, h3, h4⟩ := c17_src_zlabels_order o call.z (call.z.isNone && call.multi) zs hc
    refine ⟨_, zs, it, h1, h3, h2, ?_⟩
    have hs : ZVal.single ∉ zs.map zOf := by
      rw [h2]
      exact single_not_mem_prepareZVals m call (by cases hz : call.z <;> simp_all)
    rw [h4, ← h2, zlabels_map_zOf o.str ho.2 zs hs]
  · have hz : call.z = none := by cases h : call.z <;> simp_all
    have hm : call.multi = false := by cases h : call.multi <;> simp_all
    have hzs : prepareZVals m call = [.single] := by simp [prepareZVals, hz, hm]
    refine ⟨_, zs, .repeatNone, h1, ?_, h2, ?_⟩
    · simpa [hz, hm] using (c17_src_zlabels_given o none false zs []).2
    · have hl : zs.length = 1 := by simpa [hzs] using congrArg length h2
      rw [hl, hzs]; rfl
end ZVals

/-- **one label per series** (translated loops of `plot_lines` / `plot_scatter` / `plot_histogram`): each iteration over
the yielded series advances `_zlbls` exactly once, unconditionally.  An entry of `Gen.plLoopNexts` is (method, the iterators the
loop body advances with `next` on every iteration, those it advances under a condition) -/
theorem c17_src_loops_take_one_label :
    Gen.plLoopNexts.map (·.1) = ["plot_lines", "plot_scatter", "plot_histogram"] ∧
    ∀ e ∈ Gen.plLoopNexts, e.2.1.count "_zlbls" = 1 ∧ e.2.2.count "_zlbls" = 0 := by
  simp only [Gen.plLoopNexts, Gen.Default.plLoopNexts]
  decide

/-- where a limit of the translated normalisation comes from, in the model's terms -/
def limSrcOf : Option LimV → LimSrc
  | some (.arg _ _) => .given
  | some (.zlim _) => .zlim
  | some _ => .data
  | none => .unset

/-- **colour limits on the source**: the limits the translated `calc_color_norm` hands to the normalisation: the caller's
`vmin` / `vmax` whenever given (zero included), else — for a numeric colour quantity — `zlims[0]` / `zlims[1]` if given, else
the minimum / maximum of the FINITE data; 0.0 / 1.0 for a non-numeric one.  Never `None`. -/
theorem c17_src_colour_limits (numeric : Bool) (vmin vmax : Option Bool) (zlimLo zlimHi : Bool) :
    (∀ z, vmin = some z → (Gen.plColorNorm numeric vmin vmax zlimLo zlimHi).1 = some (.arg 0 z)) ∧
    (∀ z, vmax = some z → (Gen.plColorNorm numeric vmin vmax zlimLo zlimHi).2 = some (.arg 1 z)) ∧
    (vmin = none → (Gen.plColorNorm numeric vmin vmax zlimLo zlimHi).1 =
      some (if numeric then (if zlimLo then .zlim 0 else .dataMin) else .const "0.0")) ∧
    (vmax = none → (Gen.plColorNorm numeric vmin vmax zlimLo zlimHi).2 =
      some (if numeric then (if zlimHi then .zlim 1 else .dataMax) else .const "1.0")) := by
  simp only [Gen.plColorNorm, Gen.Default.plColorNorm]
  refine ⟨?_, ?_, ?_, ?_⟩
  · intro z h; subst h; simp
  · intro z h; subst h; simp
  · intro h; subst h; cases numeric <;> cases zlimLo <;> simp
  · intro h; subst h; cases numeric <;> cases zlimHi <;> simp

/-- the translated limits are the model's `colourLimits`: `c17_colour_limits` speaks about the source -/
theorem c17_src_colour_limits_refine (call : Call) :
    (limSrcOf (Gen.plColorNorm (zlimsApply call) (call.vmin.map (·.isZero)) (call.vmax.map (·.isZero)) call.zlimLo call.zlimHi).1,
     limSrcOf (Gen.plColorNorm (zlimsApply call) (call.vmin.map (·.isZero)) (call.vmax.map (·.isZero)) call.zlimLo call.zlimHi).2) =
      colourLimits call := by
  simp only [Gen.plColorNorm, Gen.Default.plColorNorm, colourLimits, limitSource, Gen.vminDefaulted, Gen.Default.vminDefaulted,
    Gen.vmaxDefaulted, Gen.Default.vmaxDefaulted]
  -- each end depends on its own argument, its own `zlims` entry and whether `zlims` applies
  refine Prod.ext ?_ ?_
  · cases call.vmin <;> cases zlimsApply call <;> cases call.zlimLo <;> rfl
  · cases call.vmax <;> cases zlimsApply call <;> cases call.zlimHi <;> rfl

example : Gen.plColorNorm true (some true) none false true = (some (.arg 0 true), some (.zlim 1)) := by decide
example : Gen.plColorNorm true none none false false = (some .dataMin, some .dataMax) := by decide
example : Gen.plColorNorm false none (some false) true true = (some (.const "0.0"), some (.arg 1 false)) := by decide

/-- **panels on the source**: the translated `calc_row_col_datasets` selects, row by row and column by column in the order
of the coordinates, exactly the slices of the model's `calcRowCol` (`c17_panels`), and reports its shape -/
theorem c17_src_rowcol_refines {D A F M C : Type} (o : PlotOps D A F M C (Nat × String)) (ds : D) (m : DS)
    (ho : ModelCoords o ds m) (row col : Option String) (h : (row.isSome || col.isSome) = true) :
    (Gen.plRowCol o ds row col).map (fun g => (g.1.map (·.map (·.map fun p => (p.1, p.2.1))), g.2)) =
      some ((calcRowCol m row col).map (·.map (·.2.2)), nRows m row, nCols m col) := by
  simp only [Gen.plRowCol, Gen.Default.plRowCol, calcRowCol_eq, ho.1]
  rcases row with _ | r <;> rcases col with _ | c
  · simp at h
  all_goals simp [map_mapIdx_labels, nRows, nCols, gridFixed, labels_length, Function.comp_def]

/-- **the whole generator on the model's dataset = the model's series** (z coordinate case): run over the values of the z
coordinate, the translated `gen_xy` yields exactly the data of `xySeries` over `prepareZVals`, series by series -/
theorem c17_src_xy_refines (dimOk : String → Bool) (vw : View) (call : Call) (z : String) (hz : call.z = some z)
    (hk : call.kind = .lineplot ∨ call.kind = .scatter) (r : List (List (String × List Cell)) × List (Option Cell))
    (h : Gen.plGenXY (srcOps dimOk) vw (((srcOps dimOk).coordValues vw z).map PZ.coord) false call.x1 call.y1 (some z) call.c
      call.yErr call.xErr (modeOf call.kind) = .ok r) :
    r.1 = (xySeries vw call (prepareZVals vw.ds call)).map seriesData := by
  obtain ⟨hl, hser⟩ := c17_src_genxy_series_per_z (h := h)
  have hlen : (((srcOps dimOk).coordValues vw z).map PZ.coord).length = (vw.ds.labels z).length := by simp [srcOps]
  apply ext_getElem?
  intro k
  by_cases hk' : k < (vw.ds.labels z).length
  · obtain ⟨d, cc, h1, h2⟩ := hser k (by rw [hlen]; exact hk')
    have hzk : (((srcOps dimOk).coordValues vw z).map PZ.coord)[k]'(by rw [hlen]; exact hk') = .coord (k, (vw.ds.labels z)[k]) := by
      simp [srcOps]
    rw [hzk, genxy_coord_refines dimOk vw call z k _ hk] at h1
    simp only [Except.ok.injEq, Prod.mk.injEq, cons.injEq, and_true] at h1
    rw [h2, ← h1.1]
    simp [xySeries, prepareZVals, hz, hk', sliceView, seriesData]
  · rw [getElem?_eq_none (by rw [hl, hlen]; omega), getElem?_eq_none (by simp [xySeries, prepareZVals, hz]; omega)]

/-! ### Non-vacuity: the translated functions run on the example dataset of `Props/C17.lean` -/

def exOps (ok : Bool) := srcOps fun _ => ok
def exZs : List (PZ (Nat × String)) := ((exOps true).coordValues { ds := exDS } "z").map PZ.coord

def ysOf (r : Except PErr (List (List (String × List Cell)) × List (Option Cell))) : List (List Cell) :=
  match r with
  | .ok r => r.1.map fun d => ((d.find? (·.1 == "y")).map (·.2)).getD []
  | .error _ => [[.nan]]

-- positional selection and the `.loc` fallback give the same three series, the second masked, the third empty
example : ysOf (Gen.plGenXY (exOps true) { ds := exDS } exZs false "x" "y" (some "z") none none none "lineplot") =
    [[.fin 0, .fin 1], [.fin 3], []] := by decide
example : ysOf (Gen.plGenXY (exOps false) { ds := exDS } exZs false "x" "y" (some "z") none none none "lineplot") =
    [[.fin 0, .fin 1], [.fin 3], []] := by decide
-- y_err carried: NaN / inf error values at finite points stay
example : (match Gen.plGenXY (exOps true) { ds := exDSErr } exZs false "x" "y" (some "z") none (some "ye") none "lineplot" with
    | .ok r => r.1.map fun d => ((d.find? (·.1 == "ye")).map (·.2)).getD []
    | .error _ => []) = [[.nan, .fin 11], [.inf false], []] := by decide
-- several variables with an error variable: ValueError
example : (match Gen.plGenXY (exOps true) { ds := exDS } [.name "y"] true "x" "y" none none (some "ye") none "lineplot" with
    | .ok _ => false | .error e => e == .valueError) = true := by decide
-- histogram: the finite values of each slice
example : (match Gen.plGenX (exOps true) { ds := exDS } exZs false "y" "" (some "z") none none none "histogram" with
    | .ok r => r.1.map fun d => d.map (·.2) | .error _ => []) = [[[.fin 0, .fin 1]], [[.fin 3]], [[]]] := by decide
example : (match Gen.plZVals (exOps true) { ds := exDS } (some "z") (.one "y") (.one "x") false "lineplot" with
    | .ok r => some (r.1, r.2.map zOf) | .error _ => none) = some (false, [.coord 0 "a", .coord 1 "b", .coord 2 "c"]) := by decide
example : (match Gen.plZVals (exOps true) { ds := exDS } none (.many ["y", "x"]) (.one "x") false "lineplot" with
    | .ok r => some (r.1, r.2.map zOf) | .error _ => none) = some (true, [.var "y", .var "x"]) := by decide
example : (match Gen.plZLabels (exOps true) none (some "z") false exZs with
    | .ok it => takeLabels 3 it | .error _ => none) = some [some "a", some "b", some "c"] := by decide
example : (match Gen.plZLabels (exOps true) (some ["p", "q", "r"]) (some "z") false exZs with
    | .ok it => takeLabels 3 it | .error _ => none) = some [some "p", some "q", some "r"] := by decide
example : (Gen.plRowCol (exOps true) { ds := exDS } (some "z") none).map
    (fun g => (g.1.map (·.map (·.map fun p => (p.1, p.2.1))), g.2)) = some ([[[("z", 0)]], [[("z", 1)]], [[("z", 2)]]], 3, 1) := by decide
example : (Gen.plRowCol (exOps true) { ds := exDS } (some "x") (some "z")).map (fun g => g.2) = some (2, 3) := by decide

end PlotPrep
