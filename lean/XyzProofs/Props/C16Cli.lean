import XyzProofs.Lemmas.Script
import XyzProofs.Lemmas.Attempt
/-!
# C16 — the grow command line (`xyzpy-grow`, xyzpy/gen/xyzpy_grow_cli.py `main`)

Stated on `Gen.cliSk`, the effect skeleton translated from the source of `main` on every run
(harness/anchors_scriptopts.py): the effects it attempts, in order, for every way they can fail (`fails` arbitrary),
with or without `--ray`, on a sown (`prepared`) or unsown crop.  For a sown and for an unsown crop the skeleton is `Lc.attempt`
on an explicit plan (`cliSk_sown`, `cliSk_unsown`); the theorems are then facts about `attempt`.  What `grow_missing` does to
the crop directory is C08's theorem (`c08_grow_missing`) and validated here by running the command in a child process.
-/
namespace Scr
open Gen

def isGrow : CliEff → Bool
  | .growMissing _ _ => true
  | _ => false

/-- what `main` attempts before it looks at the answer of `is_prepared()` -/
def cliPlan (ray : Bool) : List CliEff :=
  .parseArgs :: (if ray then [.mkExecutor] else []) ++ [.mkCrop true true, .isPrepared]

/-- on a sown crop the command attempts its plan and then `grow_missing`; `gpus` changes none of the effects -/
theorem cliSk_sown (fails : CliEff → Bool) (ray gpusNone : Bool) :
    cliSk fails ray gpusNone true [] = Lc.attempt fails (cliPlan ray ++ [.growMissing true true]) [] := by
  cases ray <;> cases gpusNone <;> rfl

/-- on an unsown crop it attempts the plan and raises -/
theorem cliSk_unsown (fails : CliEff → Bool) (ray gpusNone : Bool) :
    cliSk fails ray gpusNone false [] = skBindG (Lc.attempt fails (cliPlan ray) []) fun t => (t, some .other) := by
  rw [Lc.skBindG_attempt]
  cases ray <;> cases gpusNone <;> rfl

theorem isGrow_cliPlan (ray : Bool) : ∀ e ∈ cliPlan ray, isGrow e = false := by
  cases ray <;> decide

/-- on a crop that is not sown the command raises and `grow_missing` is never attempted -/
theorem c16_cli_unsown_raises (fails : CliEff → Bool) (ray gpusNone : Bool) :
    (cliSk fails ray gpusNone false []).2.isSome = true ∧
    ∀ e ∈ (cliSk fails ray gpusNone false []).1, isGrow e = false := by
  rw [cliSk_unsown]
  have hmem := Lc.attempt_mem fails (cliPlan ray) []
  generalize Lc.attempt fails (cliPlan ray) [] = r at hmem ⊢
  rcases r with ⟨t, _ | err⟩ <;>
    exact ⟨rfl, fun e he => isGrow_cliPlan ray e ((hmem e he).resolve_left (by simp))⟩

/-- on an unsown crop, when nothing fails on its own, the command stops right after asking `is_prepared()` -/
theorem c16_cli_unsown_trace (gpusNone : Bool) :
    (cliSk (fun _ => false) false gpusNone false []).1 = [.parseArgs, .mkCrop true true, .isPrepared] ∧
    (cliSk (fun _ => false) false gpusNone false []).2.isSome = true := by
  rw [cliSk_unsown, Lc.attempt_ok _ _ _ (fun _ _ => rfl)]
  exact ⟨rfl, rfl⟩

/-- whenever `grow_missing` is attempted, the crop was built from the command line's name and parent directory,
`is_prepared()` was asked right before and answered yes, and the call gets the command line's `num_workers` and
`verbosity`; it is the last effect and the only `grow_missing` -/
theorem c16_cli_grow_guarded (fails : CliEff → Bool) (ray gpusNone prepared : Bool) (e : CliEff)
    (he : e ∈ (cliSk fails ray gpusNone prepared []).1) (hg : isGrow e = true) :
    prepared = true ∧ e = .growMissing true true ∧
    (cliSk fails ray gpusNone prepared []).1.reverse.take 3 = [.growMissing true true, .isPrepared, .mkCrop true true] ∧
    (cliSk fails ray gpusNone prepared []).1.filter isGrow = [.growMissing true true] := by
  cases prepared
  · rw [(c16_cli_unsown_raises fails ray gpusNone).2 e he] at hg
    cases hg
  · rw [cliSk_sown] at he ⊢
    -- `e` is not in the plan, so it is the `grow_missing` at its end; that being attempted, all of the plan went through
    have hw : e = .growMissing true true := by
      rcases Lc.attempt_mem fails _ _ _ he with h | h
      · simp at h
      · rcases List.mem_append.mp h with h | h
        · rw [isGrow_cliPlan ray e h] at hg; cases hg
        · simpa using h
    subst hw
    rw [Lc.attempt_last_trace (by cases ray <;> simp [cliPlan]) (by simp) he]
    cases ray <;> simp [cliPlan, isGrow]

/-- if nothing fails on a sown crop, the command returns normally after exactly one `grow_missing` -/
theorem c16_cli_grows_missing (ray gpusNone : Bool) :
    (cliSk (fun _ => false) ray gpusNone true []).2 = none ∧
    ((cliSk (fun _ => false) ray gpusNone true []).1.filter isGrow) = [.growMissing true true] := by
  rw [cliSk_sown, Lc.attempt_ok _ _ _ (fun _ _ => rfl)]
  cases ray <;> simp [cliPlan, isGrow]

/-- **the CLI grows exactly the missing batches of the named crop, and nothing when the crop is not sown (it raises)** -/
theorem c16_cli_exact (B : Nat) (done : List Nat) :
    cliRun true B done = (missing B done, false) ∧ cliRun false B done = ([], true) ∧
    (missing B done).Nodup ∧ ∀ i, i ∈ missing B done ↔ 1 ≤ i ∧ i ≤ B ∧ i ∉ done := by
  refine ⟨?_, ?_, nodup_missing B done, fun i => mem_missing⟩
  · simp [cliRun, cliSk_sown, Lc.attempt, cliPlan]
  · simp [cliRun, cliSk_unsown, Lc.attempt, cliPlan]

-- `decide +kernel` as in the rest of C16: the kernel evaluates, the elaborator's own, slower evaluation is skipped
example : cliRun true 5 [2, 4] = ([1, 3, 5], false) := by decide +kernel
example : cliRun false 5 [2, 4] = ([], true) := by decide +kernel
example : (cliSk (fun _ => false) false true true []).1 =
    [.parseArgs, .mkCrop true true, .isPrepared, .growMissing true true] := by decide +kernel
example : (cliSk (fun e => e == .isPrepared) false true true []) =
    ([.parseArgs, .mkCrop true true, .isPrepared], some .other) := by decide +kernel

end Scr
