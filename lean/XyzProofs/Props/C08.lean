import XyzProofs.Lemmas.CropHistory
import Batteries.Data.List.Perm
/-!
# C08 — reported progress always matches the batches that really finished

`fin` (the set of finished batches) is the key set of the result files.  The theorems say: a grow adds exactly its own
batch to that set and only on success, deleting removes it, the counts the crop reports are the sizes of the key sets,
`missing_results` lists exactly the ids without a result, and `is_ready_to_reap` holds exactly when nothing is missing.
-/
namespace Crop
open Core List

variable {γ β : Type}

theorem length_eq_iff_all (ks : List Nat) (B : Nat) (hnd : ks.Nodup) (hsub : ∀ i ∈ ks, 1 ≤ i ∧ i ≤ B) :
    ks.length = B ↔ ∀ i, 1 ≤ i → i ≤ B → i ∈ ks := by
  -- up to order `ks` is a sublist of `1..B`: it has all `B` elements exactly when it is a permutation of it
  have hsp : ks <+~ List.range' 1 B := List.subperm_of_subset hnd fun i hi => by
    have := hsub i hi
    rw [List.mem_range'_1]; omega
  constructor
  · intro hlen i h1 h2
    exact (hsp.perm_of_length_le (by simp [hlen])).mem_iff.mpr (by rw [List.mem_range'_1]; omega)
  · intro hall
    have hps : List.range' 1 B <+~ ks := List.subperm_of_subset (List.nodup_range' (s := 1) (n := B)) fun i hi => by
      rw [List.mem_range'_1] at hi
      exact hall i (by omega) (by omega)
    simpa using (hsp.antisymm hps).length_eq

theorem WF.batches_length {d : Dir β} {B : Nat} (h : WF d B) : d.batches.length = B := by
  rw [← length_keys]
  exact (length_eq_iff_all _ B h.bnodup (fun i hi => (h.bmem i).mp hi)).mpr (fun i h1 h2 => (h.bmem i).mpr ⟨h1, h2⟩)

/-- **invariant**: a successful grow keeps the directory well formed and adds exactly its own batch -/
theorem c08_grow_inv (f : List Nat → β) (fails : List Nat → Bool) (d d' : Dir β) (B i : Nat)
    (hwf : WF d B) (h : growOne f fails d i = .ok d') :
    WF d' B ∧ (∀ k, k ∈ keys d'.results ↔ k = i ∨ k ∈ keys d.results) := by
  obtain ⟨b, hb, _, _, rfl⟩ := (growOne_ok_iff f fails d d' i).mp h
  have hi : 1 ≤ i ∧ i ≤ B := (hwf.bmem i).mp ((mem_keys_iff _ _).mpr (by rw [hb]; rfl))
  refine ⟨⟨hwf.bnodup, hwf.bmem, nodup_keys_insert _ _ _ hwf.rnodup, fun k hk => ?_⟩, fun k => mem_keys_insert _ _ _ _⟩
  rcases (mem_keys_insert _ _ _ _).mp hk with rfl | hk
  · exact hi
  · exact hwf.rsub k hk

/-- **a failed grow records nothing**: if the function raises on some setting of the batch (or the batch cannot be
loaded) the directory is left exactly as it was, and growing stops there -/
theorem c08_failed_grow_unchanged (f : List Nat → β) (fails : List Nat → Bool) (d : Dir β) (i : Nat) (is : List Nat)
    (e : Err) (h : growOne f fails d i = .error e) :
    growMany f fails d (i :: is) = (d, some e) := by
  simp [growMany, h]

theorem c08_fn_raises (f : List Nat → β) (fails : List Nat → Bool) (d : Dir β) (i : Nat) (b : List (List Nat))
    (hb : lookup d.batches i = some b) (hne : b ≠ []) (hf : b.any fails = true) :
    growOne f fails d i = .error .fnRaised := by
  simp [growOne, hb, hne, hf]

/-- deleting a result file keeps the directory well formed and removes exactly that batch from the finished set -/
theorem c08_delete_inv (d : Dir β) (B i : Nat) (hwf : WF d B) :
    WF { d with results := erase d.results i } B ∧
    (∀ k, k ∈ keys (erase d.results i) ↔ k ≠ i ∧ k ∈ keys d.results) :=
  ⟨⟨hwf.bnodup, hwf.bmem, nodup_keys_erase _ _ hwf.rnodup,
    fun k hk => hwf.rsub k ((mem_keys_erase _ _ _).mp hk).2⟩, fun _ => mem_keys_erase _ _ _⟩

/-- **reported counts**: `num_sown_batches` = number of batch files = `B`; `num_results` = size of the finished set -/
theorem c08_counts (s : St β) (d : Dir β) (B : Nat) (hd : s.dir = some d) (hinfo : d.info.isSome = true) (hwf : WF d B) :
    (calcProgress s).2.sown = B ∧ (calcProgress s).2.results = (keys d.results).length := by
  unfold calcProgress
  simp only [hd, hinfo, if_true]
  exact ⟨by rw [hwf.batches_length], by rw [length_keys]⟩

/-- **ready ⇔ nothing missing** -/
theorem c08_ready_iff (s : St β) (d : Dir β) (B : Nat) (hd : s.dir = some d) (hinfo : d.info.isSome = true)
    (hwf : WF d B) (hB : 1 ≤ B) :
    (isReady s).2 = true ↔ ∀ i, 1 ≤ i → i ≤ B → (lookup d.results i).isSome = true := by
  have hc := c08_counts s d B hd hinfo hwf
  unfold isReady
  simp only [Gen.isReady, Gen.Default.isReady, hc.1, hc.2, Bool.and_eq_true, decide_eq_true_eq]
  simp only [← mem_keys_iff]
  rw [← length_eq_iff_all _ B hwf.rnodup hwf.rsub]
  omega

/-- **missing list**: exactly the ids in `1..num_batches` that have no result file, in increasing order -/
theorem c08_missing_spec (s : St β) (nb : Nat) (ms : List Nat)
    (hnb : (calcProgress s).1.obj.nb = some nb) (h : (missingResults s).2 = .ok ms) :
    (∀ i, i ∈ ms ↔ 1 ≤ i ∧ i ≤ nb ∧ hasResult (calcProgress s).1 i = false) ∧ ms.Pairwise (· < ·) := by
  unfold missingResults at h
  generalize hcp : calcProgress s = cp at h hnb
  obtain ⟨s', p⟩ := cp
  simp only at h hnb
  simp only [hnb] at h
  cases h
  constructor
  · intro i
    simp only [List.mem_filter, List.mem_map, List.mem_range, Bool.not_eq_true']
    constructor
    · rintro ⟨⟨a, ha, rfl⟩, hr⟩; exact ⟨by omega, by omega, hr⟩
    · rintro ⟨h1, h2, hr⟩; exact ⟨⟨i - 1, by omega, by omega⟩, hr⟩
  · apply List.Pairwise.filter
    rw [List.pairwise_map]
    exact (List.pairwise_lt_range (n := nb)).imp (by intro a b h; omega)

/-- **growing what is missing makes the crop ready**: after a successful grow of every id in `1..B` that had no
result, every id has one -/
theorem c08_grow_missing (f : List Nat → β) (info : Info) (bsl : List (List (List Nat))) (d : Dir β)
    (hne : ∀ b ∈ bsl, b ≠ []) (hg : Good f d info bsl) (ms : List Nat)
    (hms : ∀ i, i ∈ ms ↔ 1 ≤ i ∧ i ≤ bsl.length ∧ (lookup d.results i).isSome = false) :
    ∀ i, 1 ≤ i → i ≤ bsl.length → (lookup (growMany f (fun _ => false) d ms).1.results i).isSome = true := by
  obtain ⟨_, _, g3⟩ := growMany_spec f bsl hne ms d hg.hb (fun i hi => ⟨((hms i).mp hi).1, ((hms i).mp hi).2.1⟩)
  intro i h1 h2
  rw [g3]
  split
  · rfl
  · rename_i hi
    exact Bool.of_not_eq_false fun hr => hi ((hms i).mpr ⟨h1, h2, hr⟩)

/-- **re-sowing keeps results**: sowing again never touches the result files -/
theorem c08_resow_keeps_results (P : Perms) (s s' : St β) (d : Dir β) (sw : Sweep) (combos : Bool) (sh : Option Nat)
    (bs nb : Option Nat) (hd : s.dir = some d) (h : opSow P s sw combos sh bs nb = .ok s') :
    ∃ d', s'.dir = some d' ∧ d'.results = d.results := by
  unfold opSow at h
  -- `combos` first: otherwise `split` picks `if combos then sortByName sw else sw` and not the `match` on `chooseBatch`
  cases combos <;> simp only [Bool.false_eq_true, if_false, if_true] at h
  all_goals
    split at h
    · cases h
    · cases h
      exact ⟨_, rfl, by simp [hd]⟩

/-- **`check_bad(delete_bad=True)`**: on a well-formed directory it never fails, reports exactly the ids whose stored
result is unreadable or of the wrong length (in listing order), removes exactly those result files, leaves every batch
file and the crop information alone, and keeps the directory well formed — so afterwards every reported count again
matches the result files that are really there (`c08_counts`, `c08_missing_spec`, `c08_ready_iff` apply to `d'`) -/
theorem c08_check_bad (d : Dir β) (B : Nat) (hwf : WF d B) :
    ∃ d' bad, checkBad d = .ok (d', bad) ∧
      bad = keys (d.results.filter (badEntry d.batches)) ∧
      d'.results = d.results.filter (fun kv => !badEntry d.batches kv) ∧
      d'.batches = d.batches ∧ d'.info = d.info ∧ WF d' B := by
  have hl : ∀ kv ∈ d.results, (lookup d.batches kv.1).isSome = true := by
    intro kv hkv
    exact (mem_keys_iff _ _).mp ((hwf.bmem _).mpr (hwf.rsub _ (List.mem_map_of_mem hkv)))
  have hfold := checkBad_fold d d.results d.results [] hl
  have hres : d.results.filter (fun kv => !(keys (d.results.filter (badEntry d.batches))).contains kv.1) =
      d.results.filter (fun kv => !badEntry d.batches kv) := by
    apply List.filter_congr
    intro x hx
    congr 1
    rw [Bool.eq_iff_iff, List.contains_iff_mem, keys, List.mem_map]
    constructor
    · rintro ⟨y, hy, hyx⟩
      obtain ⟨hy1, hy2⟩ := List.mem_filter.mp hy
      rwa [eq_of_key_eq _ hwf.rnodup y x hy1 hx hyx] at hy2
    · exact fun hb => ⟨x, List.mem_filter.mpr ⟨hx, hb⟩, rfl⟩
  rw [hres] at hfold
  refine ⟨{ d with results := d.results.filter (fun kv => !badEntry d.batches kv) },
    keys (d.results.filter (badEntry d.batches)), ?_, rfl, rfl, rfl, rfl, ?_⟩
  · rw [checkBad_eq_fold]
    simpa using hfold
  refine ⟨hwf.bnodup, hwf.bmem, ?_, ?_⟩
  · exact hwf.rnodup.sublist ((List.filter_sublist).map _)
  · exact fun i hi => hwf.rsub i (((List.filter_sublist).map _).subset hi)

/-- nothing bad is left: after `check_bad` every stored result is readable and has its batch's length -/
theorem c08_check_bad_clean (d d' : Dir β) (bad : List Nat) (B : Nat) (hwf : WF d B) (h : checkBad d = .ok (d', bad)) :
    ∀ kv ∈ d'.results, badEntry d'.batches kv = false := by
  obtain ⟨d'', bad', h', _, hres, hb, _, _⟩ := c08_check_bad d B hwf
  rw [h] at h'
  cases h'
  intro kv hkv
  rw [hres] at hkv
  rw [hb]
  simpa using (List.mem_filter.mp hkv).2

/-! Non-vacuity: batch 1's result is short, batch 3's unreadable, batch 2's fine -/
example : checkBad ({ batches := [(1, [[0], [1]]), (2, [[2], [3]]), (3, [[4]])],
                      results := [(1, .good [7]), (3, .bad), (2, .good [8, 9])] } : Dir Nat)
    = .ok ({ batches := [(1, [[0], [1]]), (2, [[2], [3]]), (3, [[4]])], results := [(2, .good [8, 9])] }, [1, 3]) := by
  rfl

/-- **nothing sown ⇒ nothing ready**: with no crop directory (never sown, or removed by a complete reap) or no
information file, the counts are the "unknown" value and the crop is not ready to reap -/
theorem c08_unsown_not_ready (s : St β) (h : s.dir = none ∨ ∃ d, s.dir = some d ∧ d.info = none) :
    (isReady s).2 = false ∧ (calcProgress s).2.sown = -1 ∧ (calcProgress s).2.results = -1 := by
  have hg : Gen.isReady (-1) (-1) = false := by decide
  rcases h with h | ⟨d, hd, hi⟩
  · simp [isReady, calcProgress, h, hg]
  · simp [isReady, calcProgress, hd, hi, hg]

/-- **the handle does not matter**: once the crop is sown, every progress query answers from the directory, whatever
the asking `Crop` object had loaded before (a handle made before the sow, in another process, …) -/
theorem c08_handle_irrelevant (s : St β) (o : Obj) (d : Dir β) (hd : s.dir = some d) (hinfo : d.info.isSome = true) :
    (calcProgress { s with obj := o }).2 = (calcProgress s).2 ∧
    (isReady { s with obj := o }).2 = (isReady s).2 ∧
    (missingResults { s with obj := o }).2 = (missingResults s).2 := by
  obtain ⟨i, hi⟩ := Option.isSome_iff_exists.mp hinfo
  cases d with
  | mk info batches results =>
    subst hi
    refine ⟨?_, ?_, ?_⟩
    · simp [calcProgress, hd]
    · simp [isReady, calcProgress, hd]
    · simp [missingResults, calcProgress, hd, syncFromDisk, hasResult]

/-! Non-vacuity -/
example : WF ({ batches := [(1, [[0]]), (2, [[1]])], results := [(2, .good [7])] } : Dir Nat) 2 := by
  refine ⟨by decide, ?_, by decide, ?_⟩
  · intro i; simp [keys]; omega
  · intro i hi; simp [keys] at hi; omega

end Crop
