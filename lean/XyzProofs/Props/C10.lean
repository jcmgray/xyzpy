import XyzModel.CropFS
import XyzProofs.Props.C04
import XyzProofs.Props.C08
import XyzProofs.Props.C11
/-!
# C10 — killing a worker at any instant never corrupts what is later reaped

`FS`: a trace of file operations accepted by the protocol predicate `atomicPublisher` (evaluated on the traces of the real
library on every run) has no final name open for writing after any prefix, i.e. at any instant a kill may strike.
`Conc`: under that protocol every result file a later process can see is complete, whichever processes stopped for ever.
`Crop`: from a directory in which every present result is complete and correct (`Good`), a reap returns an error or the exact
direct result, and the documented recovery (re-sow, check_bad, grow the missing batches, reap) returns the exact result.
-/
namespace FS
open List

/-- no final name is open for writing -/
def Safe (isFinal : String → Bool) (s : State) : Prop :=
  ∀ p f, isFinal p = true → lookup s p = some f → f.openW = false

/-- **a kill at any instant finds every final name closed**: for a trace accepted by the protocol predicate, after
*every prefix* of the trace (every point at which the process may be killed) no info / function / batch / result / data
file is open for writing -/
theorem c10_atomic_trace_safe (isFinal : String → Bool) (tr : List Ev) (h : atomicPublisher isFinal tr = true) :
    ∀ pre suf, tr = pre ++ suf → Safe isFinal (replay pre) := by
  rintro pre suf rfl
  obtain ⟨g', hg'⟩ := checkFrom_inv isFinal pre suf [] [] (fun _ _ _ hl => nomatch hl) h
  exact fun p f hp => hg' p f (Or.inl hp)

/-! Non-vacuity: a real-looking trace (temporary written, closed, renamed) is accepted; the old order is rejected. -/
def exFinal (p : String) : Bool := p == "res-1"
example : atomicPublisher exFinal [.openw 1 ".tmp-a" true, .write 1 ".tmp-a" 10, .close 1 ".tmp-a", .rename 1 ".tmp-a" "res-1"] = true := by
  decide
example : atomicPublisher exFinal [.openw 1 "res-1" true, .write 1 "res-1" 10, .close 1 "res-1"] = false := by decide

end FS

namespace Conc

/-- **every visible result file is complete, whichever processes were killed** (a killed process is one the schedule
never runs again; the statement holds for every schedule) -/
theorem c10_reachable_inv (nb : Nat) (payload : Nat → Payload) (batches : List Nat) (sched : List Act) :
    ∀ i d, (run (init .tmpRename nb payload batches) sched).res i = some d → d = payload i :=
  (reachable_inv nb payload batches sched).res

/-- the same for the publication mode the current source implements (`sourceMode`, extracted from `write_to_disk`) -/
theorem c10_reachable_inv_source (nb : Nat) (payload : Nat → Payload) (batches : List Nat) (sched : List Act) :
    ∀ i d, (run (init sourceMode nb payload batches) sched).res i = some d → d = payload i := by
  rw [c11_source_mode]
  exact c10_reachable_inv nb payload batches sched

/-- **merged data survives**: while the data file is replaced by rename, every instant shows either the old or the new
complete content -/
theorem c10_harvest_survives (old new : Payload) (chunks k : Nat) :
    dataVisible .tmpRename old new chunks k = some old ∨ dataVisible .tmpRename old new chunks k = some new := by
  simp only [dataVisible]
  by_cases h : k < chunks + 3 <;> simp [h]

/-- …whereas remove-then-rewrite has an instant with no copy at all, and instants with a partial copy -/
theorem c10_direct_mode_counterexamples :
    dataVisible .direct [1, 2, 3] [1, 2, 3, 4] 2 1 = none ∧
    dataVisible .direct [1, 2, 3] [1, 2, 3, 4] 2 3 = some [1] ∧
    (run (init .direct 1 (fun _ => [7, 8]) [0]) [.grow 0, .grow 0]).res 0 = some [7] := by decide

end Conc

namespace Crop
open Core List
variable {β : Type}

theorem Good.results_eq {f : List Nat → β} {d : Dir β} {info : Info} {bsl : List (List (List Nat))}
    (hg : Good f d info bsl) (hall : ∀ j, j < bsl.length → (lookup d.results (j + 1)).isSome = true) :
    ∀ j (hj : j < bsl.length), lookup d.results (j + 1) = some (.good (bsl[j].map f)) := by
  intro j hj
  obtain ⟨r, hr⟩ := Option.isSome_iff_exists.mp (hall j hj)
  rw [hr, hg.hr j hj r hr]

/-- **error or exact**: on a directory where every present result is complete and correct (which the protocol
guarantees at every crash point), a reap that is not asked to tolerate gaps either fails or returns exactly the direct
run's nested result -/
theorem c10_reap_error_or_exact (P : Perms) (f : List Nat → β) (nl : β → β) (s s' : St β) (d : Dir β) (info : Info)
    (c : Batch.Cfg) (o : ReapOpts) (out : Nest β)
    (hd : s.dir = some d) (hg : Good f d info (sownBatches P c info.sweep info.shuffle))
    (hnb : info.nb = (sownBatches P c info.sweep info.shuffle).length)
    (hov : info.sweep.overlap = false) (hne : info.sweep.locs ≠ [])
    (hperm : info.shuffle = 0 ∨ P info.shuffle info.sweep.locs.length ~ List.range info.sweep.locs.length)
    (hai : o.allowIncomplete = false)
    (h : reapRaw P nl s o = .ok (s', out)) :
    ∃ r, core f nl info.sweep .seq = .ok r ∧ out = r.nested := by
  -- success means the gate passed and, no stand-in being allowed, every result file was present
  have ⟨hgate, hfiles⟩ : (readyGate s false o.wait).2 = true ∧ ∀ j, j < info.nb → ∃ rs, reapFile d none (j + 1) = .ok rs := by
    unfold reapRaw at h
    split at h
    · cases h
    · next s1 info' results hlin =>
      obtain ⟨hgate, _, d', dflt, stream, hd', hinfo', hdflt, hstream, _⟩ := reapLinear_ok P nl s s1 o info' results hlin
      rw [hai] at hgate hdflt
      cases hd.symm.trans hd'
      cases hg.hinfo.symm.trans hinfo'
      cases hdflt
      exact ⟨hgate, reapStream_ok_files _ d none info.nb stream (by simpa using hstream)⟩
  have hr := hg.results_eq fun j hj => by
    obtain ⟨rs, hrs⟩ := hfiles j (hnb ▸ hj)
    cases hl : lookup d.results (j + 1) with
    | none => simp [reapFile, hl] at hrs
    | some r => rfl
  obtain ⟨s'', r, h1, h2, _⟩ := c04_reap_eq_direct P f nl s d info c o hd hg.hinfo hov hnb hr hperm hai hne hgate
  rw [h2] at h
  cases h
  exact ⟨r, h1, rfl⟩

/-- **recovery is exact**: with the sown files in place (re-sown if any was missing), growing every batch that has no
result and reaping gives exactly the direct run's result -/
theorem c10_recovery_exact (P : Perms) (f : List Nat → β) (nl : β → β) (s : St β) (d : Dir β) (info : Info)
    (c : Batch.Cfg) (o : ReapOpts) (ms : List Nat)
    (hd : s.dir = some d) (hg : Good f d info (sownBatches P c info.sweep info.shuffle))
    (hnb : info.nb = (sownBatches P c info.sweep info.shuffle).length)
    (hov : info.sweep.overlap = false) (hne : info.sweep.locs ≠ [])
    (hperm : info.shuffle = 0 ∨ P info.shuffle info.sweep.locs.length ~ List.range info.sweep.locs.length)
    (hai : o.allowIncomplete = false)
    (hms : ∀ i, i ∈ ms ↔ 1 ≤ i ∧ i ≤ info.nb ∧ (lookup d.results i).isSome = false)
    (hgate : (readyGate { s with dir := some (growMany f (fun _ => false) d ms).1 } false o.wait).2 = true) :
    ∃ s' r, core f nl info.sweep .seq = .ok r ∧
      reapRaw P nl { s with dir := some (growMany f (fun _ => false) d ms).1 } o = .ok (s', r.nested) := by
  have hne' := Batch.c07_nonempty c (sowStream P info.sweep info.shuffle)
  have hms' : ∀ i, i ∈ ms ↔ 1 ≤ i ∧ i ≤ (sownBatches P c info.sweep info.shuffle).length ∧ (lookup d.results i).isSome = false := by
    intro i; rw [hms i, hnb]
  obtain ⟨e1, e2, e3⟩ := growMany_spec f _ hne' ms d hg.hb fun i hi => ⟨((hms' i).mp hi).1, ((hms' i).mp hi).2.1⟩
  have g1 := hg.of_spec e1 e2 e3
  have hall := c08_grow_missing f info _ d hne' hg ms hms'
  have hr := g1.results_eq fun j hj => hall (j + 1) (by omega) (Nat.succ_le_of_lt hj)
  obtain ⟨s', r, h1, h2, _⟩ := c04_reap_eq_direct P f nl _ _ info c o rfl g1.hinfo hov hnb hr hperm hai hne hgate
  exact ⟨s', r, h1, h2⟩

end Crop
