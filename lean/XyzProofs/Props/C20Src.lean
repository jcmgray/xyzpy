import XyzProofs.Refine.Fmt
import XyzProofs.Props.C20
/-!
# C20 — the statements of `Props/C20.lean`, on the *translated source*

`Fmt.Src.format i` is the body of `format_number_with_error` (xyzpy/utils.py), translated statement by statement on every
run (`Gen.fmtNumberWithError`, harness/anchors_numfn.py), run on the model's formatting primitives and with the returned
f-string read back into `Out` (`XyzProofs/Refine/Fmt.lean`).  Hypotheses as in `Props/C20.lean`: exact rationals, the two
float divisions enter as data with the slack hypothesis `gapOk`.
-/
namespace Fmt

/-- the translated function answers for every value, every positive error and positive rescaled error, and its f-string
has one of the two shapes `digits(mm)` / `digits(mm)e±kk` -/
theorem c20_src_total (i : Inp) (herr : 0 < i.err) (hax : 0 ≤ i.ax) (herrs : 0 < i.errs) :
    ∃ o, Src.format i = some o := by
  rw [format_refines i herr hax herrs]
  exact c20_format_total i herr hax herrs

/-- **read-back of what the translated function returns**, in terms of the original `x` and `err`: the output denotes an
uncertainty `U = m·10^(E−1)·10^K`, `10 ≤ m ≤ 99`, `E ≤ 1`, within `½·unit + τ·err` of `err`, and a value within
`½·unit + τ·|x|` of `x`, where `unit = 10^(E−1)·10^K` is the weight of the last shown digit of both -/
theorem c20_src_reads_back (i : Inp) (o : Out) (τ : ℚ) (hτ0 : 0 ≤ τ) (hτ : τ ≤ 1) (herr : 0 < i.err) (hax : 0 ≤ i.ax)
    (herrs : 0 < i.errs) (h : Src.format i = some o)
    (hgap : ∀ k, kOf i = some k → hide i k = false → gapOk i k τ = true) :
    ∃ (m E K : ℤ), (10 : ℚ) ≤ m ∧ (m : ℚ) < 100 ∧ E ≤ 1 ∧
      (denote o).2 = (m : ℚ) * ((10 : ℚ) ^ (E - 1) * (10 : ℚ) ^ K) ∧
      |(denote o).2 - i.err| ≤ (1 / 2) * ((10 : ℚ) ^ (E - 1) * (10 : ℚ) ^ K) + τ * i.err ∧
      |(denote o).1 - sign i * i.ax| ≤ (1 / 2) * ((10 : ℚ) ^ (E - 1) * (10 : ℚ) ^ K) + τ * i.ax := by
  rw [format_refines i herr hax herrs] at h
  exact c20_reads_back i o τ hτ0 hτ herr hax h hgap

/-- the printed exponent is hidden exactly when the source's rule says so -/
theorem c20_src_suffix (i : Inp) (o : Out) (k : ℤ) (herr : 0 < i.err) (hax : 0 ≤ i.ax) (herrs : 0 < i.errs)
    (h : Src.format i = some o) (hk : kOf i = some k) :
    o.k = if hide i k then none else some k := by
  rw [format_refines i herr hax herrs] at h
  obtain ⟨k', m, E, hk', _, ho⟩ := format_some h
  rw [hk] at hk'
  obtain rfl : k = k' := by simpa using hk'
  rw [ho]

/-! ### non-vacuity: the translated function *computed* on the D13 witness and the docstring examples -/

example : (Src.format ⟨false, 999 / 10, 249 / 25, 999 / 100, 249 / 250, true⟩).map render = some "100(10)" := by
  decide +kernel
example : (Src.format ⟨false, 1542412 / 10000000, 626653 / 10000000, 1542412 / 1000000, 626653 / 1000000, false⟩).map
    render = some "0.154(63)" := by decide +kernel
example : (Src.format ⟨true, 128124123097, 6424, 128124123097 / 100000000000, 6424 / 100000000000, true⟩).map
    render = some "-1.281241231(64)e+11" := by decide +kernel

end Fmt
