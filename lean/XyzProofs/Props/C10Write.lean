import XyzProofs.Props.C10
/-!
`Gen.writeToDisk` is the body of `write_to_disk(obj, fname)` (xyzpy/gen/cropping.py) translated on every run into a
*state skeleton* (harness/anchors_checkbad.py): a function over an abstract state `S` and a record of file operations
`o : Gen.FileOps S E` — open for writing / dump / close / replace / exists / remove, each applied to one of the two names
`final` (= `fname`) and `tmp` (the other name built from it before the write).  C10 / C11 are stated on the log of
operations a call attempts (`logOps`), for arbitrary operations, and tied to C10's protocol predicate on file-system
traces (`FS.atomicPublisher`) and to `Conc.sourceMode`.
-/
namespace WriteSk
open Gen

variable {S E : Type}

/-- the `try` body: open the temporary; dump; close whether or not the dump raised (a failing close wins over a failing
dump); replace only if all three went through -/
def wtdBody (o : FileOps S E) (st : S) : S × Option E :=
  match o.openW st .tmp with
  | (s1, some e) => (s1, some e)
  | (s1, none) =>
    match o.dump s1 .tmp with
    | (s2, none) =>
      (match o.close s2 .tmp with
       | (s3, some e) => (s3, some e)
       | (s3, none) => o.replace s3 .tmp .final)
    | (s2, some e) => ((o.close s2 .tmp).1, some ((o.close s2 .tmp).2.getD e))

/-- the handler: remove the temporary if it exists -/
def wtdCleanup (o : FileOps S E) (s : S) : S × Option E :=
  if o.pathExists s .tmp then o.remove s .tmp else (s, none)

/-- `write_to_disk`: the body; if it raised, the clean-up on the state reached, then the exception again (the clean-up's
own exception if it raises) -/
def wtdSpec (o : FileOps S E) (st : S) : S × Option E :=
  match wtdBody o st with
  | (s, none) => (s, none)
  | (s, some e) => ((wtdCleanup o s).1, some ((wtdCleanup o s).2.getD e))

theorem writeToDisk_eq_spec (o : FileOps S E) (st : S) : Gen.writeToDisk o st = wtdSpec o st := by
  simp only [Gen.writeToDisk, Gen.Default.writeToDisk, wtdSpec, wtdBody, wtdCleanup, stWith]
  -- case on how each operation ends, in the order they are attempted, and — where the body raised — on the handler's
  -- test and on how the removal ends: with these fixed both sides compute, whatever way the source spells the body
  rcases h1 : o.openW st .tmp with ⟨s1, _ | e1⟩
  · rcases h2 : o.dump s1 .tmp with ⟨s2, _ | e2⟩ <;> rcases h3 : o.close s2 .tmp with ⟨s3, _ | e3⟩
    · rcases h4 : o.replace s3 .tmp .final with ⟨s4, _ | e4⟩
      · simp [h1, h2, h3, h4]
      · cases hp : o.pathExists s4 .tmp <;> rcases hr : o.remove s4 .tmp with ⟨s5, _ | e5⟩ <;>
          simp [h1, h2, h3, h4, hp, hr]
    all_goals
      cases hp : o.pathExists s3 .tmp <;> rcases hr : o.remove s3 .tmp with ⟨s5, _ | e5⟩ <;> simp [h1, h2, h3, hp, hr]
  · cases hp : o.pathExists s1 .tmp <;> rcases hr : o.remove s1 .tmp with ⟨s5, _ | e5⟩ <;> simp [h1, hp, hr]

inductive WEv where
  | openW (n : WName) | dump (n : WName) | openR (n : WName) | load (n : WName) | close (n : WName)
  | replace (a b : WName) | remove (n : WName)
deriving DecidableEq, Repr

/-- does the operation name `fname`? -/
def WEv.touchesFinal : WEv → Bool
  | .openW n | .dump n | .openR n | .load n | .close n | .remove n => n == .final
  | .replace a b => a == .final || b == .final

/-- arbitrary operations, with a log of what was attempted and how it ended next to the state -/
def logOps (o : FileOps S E) : FileOps (S × List (WEv × Option E)) E where
  openW := fun s n => (((o.openW s.1 n).1, s.2 ++ [(.openW n, (o.openW s.1 n).2)]), (o.openW s.1 n).2)
  dump := fun s n => (((o.dump s.1 n).1, s.2 ++ [(.dump n, (o.dump s.1 n).2)]), (o.dump s.1 n).2)
  openR := fun s n => (((o.openR s.1 n).1, s.2 ++ [(.openR n, (o.openR s.1 n).2)]), (o.openR s.1 n).2)
  load := fun s n => (((o.load s.1 n).1, s.2 ++ [(.load n, (o.load s.1 n).2)]), (o.load s.1 n).2)
  close := fun s n => (((o.close s.1 n).1, s.2 ++ [(.close n, (o.close s.1 n).2)]), (o.close s.1 n).2)
  replace := fun s a b => (((o.replace s.1 a b).1, s.2 ++ [(.replace a b, (o.replace s.1 a b).2)]), (o.replace s.1 a b).2)
  pathExists := fun s n => o.pathExists s.1 n
  remove := fun s n => (((o.remove s.1 n).1, s.2 ++ [(.remove n, (o.remove s.1 n).2)]), (o.remove s.1 n).2)

def wtdLog (o : FileOps S E) (st : S) : List (WEv × Option E) := (Gen.writeToDisk (logOps o) (st, [])).1.2

def wtdErr (o : FileOps S E) (st : S) : Option E := (Gen.writeToDisk (logOps o) (st, [])).2

/-- the log of a call in which nothing failed -/
abbrev published : List (WEv × Option E) :=
  [(.openW .tmp, none), (.dump .tmp, none), (.close .tmp, none), (.replace .tmp .final, none)]

/-- the logs a `try` body that raises can leave, each with the exception (a failing close wins over a failing dump) -/
inductive BodyFail : List (WEv × Option E) → E → Prop
  | openW (e : E) : BodyFail [(.openW .tmp, some e)] e
  | dump (e : E) : BodyFail [(.openW .tmp, none), (.dump .tmp, some e), (.close .tmp, none)] e
  | dumpClose (e e' : E) : BodyFail [(.openW .tmp, none), (.dump .tmp, some e), (.close .tmp, some e')] e'
  | close (e : E) : BodyFail [(.openW .tmp, none), (.dump .tmp, none), (.close .tmp, some e)] e
  | replace (e : E) :
      BodyFail [(.openW .tmp, none), (.dump .tmp, none), (.close .tmp, none), (.replace .tmp .final, some e)] e

/-- what the handler adds to the log after the body raised `e`, and what is raised then -/
inductive Cleanup (e : E) : List (WEv × Option E) → E → Prop
  | absent : Cleanup e [] e
  | removed : Cleanup e [(.remove .tmp, none)] e
  | removeFails (e' : E) : Cleanup e [(.remove .tmp, some e')] e'

/-- the runs of `write_to_disk`, as log and exception; `absent`: the temporary does not exist when the call ends -/
inductive Run (absent : Prop) : List (WEv × Option E) → Option E → Prop
  | published : Run absent published none
  | failed {body cl : List (WEv × Option E)} {e e' : E} :
      BodyFail body e → Cleanup e cl e' → (cl = [] → absent) → Run absent (body ++ cl) (some e')

theorem wtdBody_run (o : FileOps S E) (st : S) :
    (∃ s, wtdBody (logOps o) (st, []) = ((s, published), none)) ∨
      ∃ s body e, BodyFail body e ∧ wtdBody (logOps o) (st, []) = ((s, body), some e) := by
  simp only [wtdBody, logOps]
  rcases h1 : o.openW st .tmp with ⟨s1, _ | e1⟩ <;> simp only []
  · rcases h2 : o.dump s1 .tmp with ⟨s2, _ | e2⟩ <;> simp only []
    · rcases h3 : o.close s2 .tmp with ⟨s3, _ | e3⟩ <;> simp only []
      · rcases h4 : o.replace s3 .tmp .final with ⟨s4, _ | e4⟩
        · exact Or.inl ⟨s4, rfl⟩
        · exact Or.inr ⟨s4, _, e4, .replace e4, rfl⟩
      · exact Or.inr ⟨s3, _, e3, .close e3, rfl⟩
    · rcases h3 : o.close s2 .tmp with ⟨s3, _ | e3⟩
      · exact Or.inr ⟨s3, _, e2, .dump e2, rfl⟩
      · exact Or.inr ⟨s3, _, e3, .dumpClose e2 e3, rfl⟩
  · exact Or.inr ⟨s1, _, e1, .openW e1, rfl⟩

/-- **every run of the translated `write_to_disk`**, whatever the operations do: the four operations went through; or
the body raised, the temporary was removed if it existed, and the exception raised again (the removal's own if it failed) -/
theorem wtd_run (o : FileOps S E) (st : S) :
    ∃ l r, Run (o.pathExists (Gen.writeToDisk (logOps o) (st, [])).1.1 .tmp = false) l r ∧
      wtdLog o st = l ∧ wtdErr o st = r := by
  simp only [wtdLog, wtdErr, writeToDisk_eq_spec, wtdSpec]
  rcases wtdBody_run o st with ⟨s, hw⟩ | ⟨s, body, e, hb, hw⟩ <;> rw [hw]
  · exact ⟨_, _, .published, rfl, rfl⟩
  · simp only [wtdCleanup, logOps]
    by_cases hp : o.pathExists s .tmp = true
    · rcases hr : (o.remove s .tmp).2 with _ | e'
      · exact ⟨_, _, .failed hb .removed (by simp), by simp [hp], by simp [hp]⟩
      · exact ⟨_, _, .failed hb (.removeFails e') (by simp), by simp [hp], by simp [hp]⟩
    · exact ⟨_, _, .failed hb .absent (fun _ => by simp [hp]), by simp [hp], by simp [hp]⟩

/-- **the final name is only ever the target of `replace`**: it is never opened for writing, written, closed or removed,
and never moved away -/
theorem wtd_final_only_replaced (o : FileOps S E) (st : S) :
    ∀ x ∈ wtdLog o st, x.1.touchesFinal = true → x.1 = .replace .tmp .final := by
  obtain ⟨l, r, h, hl, _⟩ := wtd_run o st
  rw [hl]
  cases h with
  | published => simp [WEv.touchesFinal]
  | failed hb hc _ => cases hb <;> cases hc <;> simp [WEv.touchesFinal]

/-- **the replace is attempted only after the dump and the close succeeded**: if it occurs in the log at all, the log
starts `open tmp ✓, dump tmp ✓, close tmp ✓, replace tmp → final` -/
theorem wtd_replace_after_close (o : FileOps S E) (st : S) (r : Option E)
    (h : (WEv.replace .tmp .final, r) ∈ wtdLog o st) :
    ∃ rest, wtdLog o st = [(.openW .tmp, none), (.dump .tmp, none), (.close .tmp, none), (.replace .tmp .final, r)] ++ rest := by
  obtain ⟨l, r0, hrun, hl, _⟩ := wtd_run o st
  rw [hl] at h ⊢
  cases hrun with
  -- an enumeration of the sixteen runs; `h` picks out those whose log holds the replace
  | published => simp_all
  | failed hb hc _ => cases hb <;> cases hc <;> simp_all

/-- the call returns normally exactly when the four operations ran and all succeeded (and then nothing else ran) -/
theorem wtd_ok_iff (o : FileOps S E) (st : S) :
    wtdErr o st = none ↔
      wtdLog o st = [(.openW .tmp, none), (.dump .tmp, none), (.close .tmp, none), (.replace .tmp .final, none)] := by
  obtain ⟨l, r, h, hl, hr⟩ := wtd_run o st
  rw [hl, hr]
  cases h with
  | published => simp
  | failed hb hc _ => cases hb <;> cases hc <;> simp

/-- **any failure is re-raised**: the call raises iff some operation failed, and what it raises is the error of the last
operation that failed (the original exception, unless removing the temporary failed too) -/
theorem wtd_failure_reraised (o : FileOps S E) (st : S) :
    wtdErr o st = ((wtdLog o st).reverse.find? (·.2.isSome)).bind (·.2) := by
  obtain ⟨l, r, h, hl, hr⟩ := wtd_run o st
  rw [hl, hr]
  cases h with
  | published => simp
  | failed hb hc _ => cases hb <;> cases hc <;> simp

/-- **on any failure the temporary is removed if it exists**: when the call raised, either removing the temporary was the
last thing attempted, or the temporary does not exist in the state the call ended in -/
theorem wtd_failure_cleans_up (o : FileOps S E) (st : S) (h : wtdErr o st ≠ none) :
    (∃ r, (wtdLog o st).getLast? = some (.remove .tmp, r)) ∨
      o.pathExists (Gen.writeToDisk (logOps o) (st, [])).1.1 .tmp = false := by
  obtain ⟨l, r, hrun, hl, hr⟩ := wtd_run o st
  rw [hl]
  cases hrun with
  | published => exact absurd hr h
  | failed hb hc ha => cases hc <;> simp [ha]

/-- the removal is attempted only after a failure -/
theorem wtd_remove_only_after_failure (o : FileOps S E) (st : S) (r : Option E) (h : (WEv.remove .tmp, r) ∈ wtdLog o st) :
    wtdErr o st ≠ none := by
  obtain ⟨l, r0, hrun, hl, hr⟩ := wtd_run o st
  rw [hl] at h
  rw [hr]
  cases hrun with
  | published => simp at h
  | failed _ _ _ => simp

/-! Non-vacuity: nothing fails; the dump fails (the file is still closed, the temporary removed, the error re-raised). -/
def okOps : FileOps Unit String :=
  { openW := fun _ _ => ((), none), dump := fun _ _ => ((), none), openR := fun _ _ => ((), none), load := fun _ _ => ((), none),
    close := fun _ _ => ((), none), replace := fun _ _ _ => ((), none), pathExists := fun _ _ => true, remove := fun _ _ => ((), none) }
example : wtdLog okOps () = [(.openW .tmp, none), (.dump .tmp, none), (.close .tmp, none), (.replace .tmp .final, none)]
    ∧ wtdErr okOps () = none := by
  simp [wtdLog, wtdErr, writeToDisk_eq_spec, wtdSpec, wtdBody, logOps, okOps]
example : wtdLog { okOps with dump := fun _ _ => ((), some "disk full") } ()
      = [(.openW .tmp, none), (.dump .tmp, some "disk full"), (.close .tmp, none), (.remove .tmp, none)]
    ∧ wtdErr { okOps with dump := fun _ _ => ((), some "disk full") } () = some "disk full" := by
  simp [wtdLog, wtdErr, writeToDisk_eq_spec, wtdSpec, wtdBody, wtdCleanup, logOps, okOps]

/-- `read_from_disk(fname)`: open the final name for reading, load, close whether or not the load raised; nothing is
written, moved or removed -/
theorem readFromDisk_eq_spec (o : FileOps S E) (st : S) :
    Gen.readFromDisk o st = stWith (o.openR st .final) (fun s => o.load s .final) (fun s => o.close s .final) := by
  rcases h1 : o.openR st .final with ⟨s1, _ | e1⟩
  · rcases h2 : o.load s1 .final with ⟨s2, _ | e2⟩ <;> rcases h3 : o.close s2 .final with ⟨s3, _ | e3⟩ <;>
      simp [Gen.readFromDisk, Gen.Default.readFromDisk, stWith, h1, h2, h3]
  · simp [Gen.readFromDisk, Gen.Default.readFromDisk, stWith, h1]

theorem readFromDisk_reads_only (o : FileOps S E) (st : S) :
    ∀ x ∈ (Gen.readFromDisk (logOps o) (st, [])).1.2, x.1 = .openR .final ∨ x.1 = .load .final ∨ x.1 = .close .final := by
  simp only [readFromDisk_eq_spec, stWith, logOps, stBind, stFinally]
  rcases h1 : o.openR st .final with ⟨s1, _ | e1⟩
  · rcases h2 : o.load s1 .final with ⟨s2, _ | e2⟩ <;> rcases h3 : o.close s2 .final with ⟨s3, _ | e3⟩ <;> simp [h2, h3]
  · simp

example : (Gen.readFromDisk (logOps okOps) ((), [])).1.2 = [(.openR .final, none), (.load .final, none), (.close .final, none)] := by
  simp [readFromDisk_eq_spec, stWith, logOps, stBind, stFinally, okOps]

end WriteSk

namespace FS
open Gen WriteSk

variable {S E : Type}

/-- the write-side file-system events of one logged operation of process `pid` (a rename / unlink that failed did not
happen; an open, write or close is counted even when it failed — it may have taken effect) -/
def evOf (pid : Nat) (path : WName → String) : WEv × Option E → List Ev
  | (.openW n, _) => [.openw pid (path n) true]
  | (.dump n, _) => [.write pid (path n) 1]
  | (.close n, _) => [.close pid (path n)]
  | (.replace a b, none) => [.rename pid (path a) (path b)]
  | (.replace _ _, some _) => []
  | (.remove n, none) => [.unlink pid (path n)]
  | (.remove _, some _) => []
  | (.openR _, _) => [.other pid]
  | (.load _, _) => [.other pid]

def traceOf (pid : Nat) (path : WName → String) (log : List (WEv × Option E)) : List Ev := log.flatMap (evOf pid path)

/-- **the trace of ANY run of the translated `write_to_disk` satisfies the publication protocol** (whatever the
operations do, wherever one fails), provided the temporary's name is not itself a final name -/
theorem c10_write_to_disk_atomic (o : FileOps S E) (st : S) (isFinal : String → Bool) (pid : Nat) (path : WName → String)
    (htmp : isFinal (path .tmp) = false) :
    atomicPublisher isFinal (traceOf pid path (wtdLog o st)) = true := by
  obtain ⟨l, r, h, hl, _⟩ := wtd_run o st
  rw [hl]
  cases h with
  | published =>
    -- the one rename onto a final name: the temporary was opened and closed by this process before
    cases hf : isFinal (path .final) <;>
      simp [traceOf, evOf, atomicPublisher, checkFrom, okEv, htmp, hf, glookup, gset, gerase, lookup_set]
  | failed hb hc _ =>
    -- no rename happened; opening, writing, closing and unlinking a name that is not final is always accepted
    cases hb <;> cases hc <;>
      simp [traceOf, evOf, atomicPublisher, checkFrom, okEv, htmp, glookup, gset, gerase, lookup_set]

/-- **a kill at any instant of `write_to_disk` finds every final name closed** -/
theorem c10_write_to_disk_kill_safe (o : FileOps S E) (st : S) (isFinal : String → Bool) (pid : Nat) (path : WName → String)
    (htmp : isFinal (path .tmp) = false) :
    ∀ pre suf, traceOf pid path (wtdLog o st) = pre ++ suf → Safe isFinal (replay pre) :=
  c10_atomic_trace_safe isFinal _ (c10_write_to_disk_atomic o st isFinal pid path htmp)

/-- non-vacuity: for a result file and its temporary the hypothesis on the names is met, and the trace of a run in which
nothing fails is accepted -/
example : atomicPublisher (fun p => p == "xyz-result-1.jbdmp")
    (traceOf (E := String) 7 (fun | .final => "xyz-result-1.jbdmp" | .tmp => ".tmp-u-xyz-result-1.jbdmp") (wtdLog okOps ())) = true := by
  decide

end FS

namespace Conc
open Gen WriteSk

/-- does the translated body publish by rename?  Run with operations that never fail, it opens, fills and closes the
temporary and then moves it onto the final name — nothing else, in that order -/
def skPublishesViaRename : Bool :=
  decide (wtdLog okOps () = [(.openW .tmp, none), (.dump .tmp, none), (.close .tmp, none), (.replace .tmp .final, none)])

/-- the publication mode of the source, read off the TRANSLATED BODY of `write_to_disk` (and the two facts about the
temporary's name) -/
def sourceModeSk : Mode :=
  if skPublishesViaRename && Gen.tmpNamePrivate && Gen.tmpNameHidden then .tmpRename else .direct

theorem skPublishesViaRename_true : skPublishesViaRename = true := by decide

/-- the two independent readings of the source agree: the syntactic fact `publishViaRename` (harness/anchors_fs.py) and
the behaviour of the translated body -/
theorem c10_publish_agrees : Gen.publishViaRename = skPublishesViaRename := by
  rw [skPublishesViaRename_true]; decide

theorem c11_source_mode_sk : sourceModeSk = .tmpRename := by
  have h2 : Gen.tmpNamePrivate = true := by decide
  have h3 : Gen.tmpNameHidden = true := by decide
  simp [sourceModeSk, skPublishesViaRename_true, h2, h3]

theorem sourceModeSk_eq : sourceModeSk = sourceMode := by rw [c11_source_mode_sk, c11_source_mode]

/-- `c10_reachable_inv` for the mode the translated body implements -/
theorem c10_reachable_inv_source_sk (nb : Nat) (payload : Nat → Payload) (batches : List Nat) (sched : List Act) :
    ∀ i d, (run (init sourceModeSk nb payload batches) sched).res i = some d → d = payload i := by
  rw [c11_source_mode_sk]
  exact c10_reachable_inv nb payload batches sched

/-- `c11_reaper_safe` / `c11_poller_safe` for the mode the translated body implements -/
theorem c11_safe_source_sk (nb : Nat) (payload : Nat → Payload) (batches : List Nat) (sched : List Act) :
    let s' := run (init sourceModeSk nb payload batches) sched
    s'.reaper.failed = false ∧ (s'.reaper.next = nb → s'.reaper.acc = (List.range nb).map payload) ∧
    (∀ i d, s'.res i = some d → d = s'.payload i) ∧ (∀ c ∈ s'.counted, ∀ x ∈ c, x.2 = s'.payload x.1) := by
  rw [sourceModeSk_eq]
  exact c11_safe_source nb payload batches sched

end Conc
