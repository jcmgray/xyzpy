import XyzProofs.Props.C09
import XyzProofs.Refine.Reaper
/-!
# C09 / C04 — the stream theorems as theorems about the translated Reaper

`c09_stream_partial` and `c04_stream_full` are statements about the hand-written `Crop.reapStream`;
`Reaper.reapStream_refines` (Refine/Reaper.lean) says that stream is the chain of the translated `Reaper.__init__`
loader over the translated file order.  Here the two are put together: the same statements about
`Gen.reaperFiles` / `Gen.reaperLoadFn` / `Gen.reaperCall` / `Gen.reaperExit`, i.e. about the source as it is on this run.
The directory operations are answered by the model's directory (`Reaper.loadOf`); the directory is static during the
reap and a waiting loop gets at least one poll.
-/
namespace Crop
open Core List Reaper

variable {β : Type}

/-- **C09 on the source, the stream**: on a partly grown crop the translated Reaper (not waiting, with the stand-in
`ph`) loads, in the translated file order, the exact results of every finished batch and one stand-in per setting of
every other batch — for every number of batches and every subset `fin` of finished ones -/
theorem c09_stream_partial_src (f : List Nat → β) (ph junk : β) (bs : Int) (fuel : Nat) (existsAt : Nat → Int → Bool)
    (fin : Nat → Bool) (d : Dir β) (bsl : List (List (List Nat))) (hne : ∀ b ∈ bsl, b ≠ [])
    (hb : ∀ j (hj : j < bsl.length), lookup d.batches (j + 1) = some bsl[j])
    (hfin : ∀ j (hj : j < bsl.length), fin (j + 1) = true → lookup d.results (j + 1) = some (.good (bsl[j].map f)))
    (hnot : ∀ j (hj : j < bsl.length), fin (j + 1) = false → lookup d.results (j + 1) = none)
    (hfuel : 0 < fuel) (hstatic : ∀ t x, existsAt t x = isFileOf d x)
    (hbne : ∀ i b, lookup d.batches i = some b → b ≠ []) :
    Gen.chainRest (loadOf d false (some ph) junk bs fuel existsAt) (Gen.reaperFiles (bsl.length : Int)) =
      .ok (partialStream f ph fin bsl) := by
  have h := c09_stream_partial f ph fin {} d bsl hne hb hfin hnot
  exact (reapStream_ok_iff {} d false (some ph) junk bs fuel existsAt hfuel hstatic hbne bsl.length _).mp h

/-- **C09 on the source, the session**: a runner that calls the translated Reaper once per setting and then leaves the
`with` block gets exactly the partial stream: no call raises, the exit check passes -/
theorem c09_session_partial_src (f : List Nat → β) (ph junk : β) (bs : Int) (fuel : Nat) (existsAt : Nat → Int → Bool)
    (fin : Nat → Bool) (d : Dir β) (bsl : List (List (List Nat))) (hne : ∀ b ∈ bsl, b ≠ [])
    (hb : ∀ j (hj : j < bsl.length), lookup d.batches (j + 1) = some bsl[j])
    (hfin : ∀ j (hj : j < bsl.length), fin (j + 1) = true → lookup d.results (j + 1) = some (.good (bsl[j].map f)))
    (hnot : ∀ j (hj : j < bsl.length), fin (j + 1) = false → lookup d.results (j + 1) = none)
    (hfuel : 0 < fuel) (hstatic : ∀ t x, existsAt t x = isFileOf d x)
    (hbne : ∀ i b, lookup d.batches i = some b → b ≠ []) :
    session (loadOf d false (some ph) junk bs fuel existsAt) (Gen.reaperFiles (bsl.length : Int))
      (partialStream f ph fin bsl).length = .ok (partialStream f ph fin bsl) := by
  rw [session_eq, c09_stream_partial_src f ph junk bs fuel existsAt fin d bsl hne hb hfin hnot hfuel hstatic hbne]
  simp [Except.bind, lengthGate]

/-- **C09 on the source, call by call**: the `k`-th call of the translated `__call__` returns element `k` of the partial
stream -/
theorem c09_call_partial_src (f : List Nat → β) (ph junk : β) (bs : Int) (fuel : Nat) (existsAt : Nat → Int → Bool)
    (fin : Nat → Bool) (d : Dir β) (bsl : List (List (List Nat))) (hne : ∀ b ∈ bsl, b ≠ [])
    (hb : ∀ j (hj : j < bsl.length), lookup d.batches (j + 1) = some bsl[j])
    (hfin : ∀ j (hj : j < bsl.length), fin (j + 1) = true → lookup d.results (j + 1) = some (.good (bsl[j].map f)))
    (hnot : ∀ j (hj : j < bsl.length), fin (j + 1) = false → lookup d.results (j + 1) = none)
    (hfuel : 0 < fuel) (hstatic : ∀ t x, existsAt t x = isFileOf d x)
    (hbne : ∀ i b, lookup d.batches i = some b → b ≠ []) (k : Nat) (hk : k < (partialStream f ph fin bsl).length) :
    ∃ buf fl, (calls (loadOf d false (some ph) junk bs fuel existsAt) k [] (Gen.reaperFiles (bsl.length : Int))).2 = (buf, fl) ∧
      (Gen.reaperCall (loadOf d false (some ph) junk bs fuel existsAt) buf fl).1 = .ok (partialStream f ph fin bsl)[k] :=
  reaper_kth_call _ _ _ (c09_stream_partial_src f ph junk bs fuel existsAt fin d bsl hne hb hfin hnot hfuel hstatic hbne) k hk

/-- **C04 on the source**: over a fully and correctly grown crop the translated Reaper — waiting or not, with or
without a stand-in — loads the function mapped over the concatenated batches, and a runner making one call per setting
gets exactly that -/
theorem c04_stream_full_src (f : List Nat → β) (wait : Bool) (dflt : Option β) (junk : β) (bs : Int) (fuel : Nat)
    (existsAt : Nat → Int → Bool) (d : Dir β) (bsl : List (List (List Nat))) (hne : ∀ b ∈ bsl, b ≠ [])
    (hr : ∀ j (hj : j < bsl.length), lookup d.results (j + 1) = some (.good (bsl[j].map f)))
    (hfuel : 0 < fuel) (hstatic : ∀ t x, existsAt t x = isFileOf d x)
    (hbne : ∀ i b, lookup d.batches i = some b → b ≠ []) :
    Gen.chainRest (loadOf d wait dflt junk bs fuel existsAt) (Gen.reaperFiles (bsl.length : Int)) = .ok (bsl.flatten.map f) ∧
    session (loadOf d wait dflt junk bs fuel existsAt) (Gen.reaperFiles (bsl.length : Int)) bsl.flatten.length =
      .ok (bsl.flatten.map f) := by
  have h := c04_stream_full f {} d bsl (if wait then none else dflt) hne hr
  have h2 := (reapStream_ok_iff {} d wait dflt junk bs fuel existsAt hfuel hstatic hbne bsl.length _).mp h
  refine ⟨h2, ?_⟩
  rw [session_eq, h2]
  simp only [Except.bind, lengthGate, List.length_map, Nat.lt_irrefl, if_false]

/-! Non-vacuity: three batches (the last one short), batch 2 not finished; the session of five calls returns the
partial stream, and the full crop returns everything -/
example : session (loadOf (β := Nat)
      { batches := [(1, [[0], [1]]), (2, [[2], [3]]), (3, [[4]])], results := [(1, .good [0, 1]), (3, .good [4])] }
      false (some 99) 0 2 1 (fun _ _ => true)) (Gen.reaperFiles 3) 5 = .ok [0, 1, 99, 99, 4] := by decide
example : session (loadOf (β := Nat)
      { batches := [(1, [[0], [1]]), (2, [[2], [3]]), (3, [[4]])],
        results := [(1, .good [0, 1]), (2, .good [2, 3]), (3, .good [4])] }
      true none 0 2 1 (fun _ _ => true)) (Gen.reaperFiles 3) 5 = .ok [0, 1, 2, 3, 4] := by decide

end Crop
