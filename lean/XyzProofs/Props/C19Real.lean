import XyzProofs.Props.C19Src
import Mathlib.Analysis.Real.Sqrt
/-!
# C19 — `ℝ` with `Real.sqrt` is an ordered field with square roots

so the theorems of `Refine/Num.lean` and `Props/C19Src.lean`, stated for any such field, are not vacuous.  A file of its
own so that only this one loads real analysis.
-/
namespace Stats
open List

theorem isSqrt_real : IsSqrt (K := ℝ) Real.sqrt := fun a h => ⟨Real.sqrt_nonneg a, Real.mul_self_sqrt h⟩

example := c19_src_var (K := ℝ) (fun a => |a|) Real.sqrt isSqrt_real 0 [1, 2, 6] (by simp)

/-- non-vacuity over `ℝ`: a constant stream converges as soon as the rule looks (7 calls of `fn` for `min_samples = 5`);
a limit of 3 cuts a non-converging stream after exactly 3 calls -/
example : (Gen.estimateFromRepeats (fun a => |a|) Real.sqrt 0 (fun _ => (((1 : ℚ) : ℚ) : ℝ)) (max 1 (100 : ℤ).toNat)
    (((1 / 50 : ℚ) : ℚ) : ℝ) ((1 : ℚ) : ℝ) false false 5 100).2 = 7 := by
  rw [estimateFromRepeats_refines Real.sqrt isSqrt_real 0 (fun _ => 1) ⟨1 / 50, 1, 5, 100⟩ false false]
  have : (estimate (fun _ => 1) ⟨1 / 50, 1, 5, 100⟩).count = 7 := by decide +kernel
  simp only [estResult]
  rw [this]; rfl
example : (Gen.estimateFromRepeats (fun a => |a|) Real.sqrt 0 (fun i => (((i : ℚ) * (i : ℚ) : ℚ) : ℝ)) (max 1 (3 : ℤ).toNat)
    (((1 / 1000 : ℚ) : ℚ) : ℝ) ((1 : ℚ) : ℝ) true false 0 3).2 = 3 := by
  rw [estimateFromRepeats_refines Real.sqrt isSqrt_real 0 (fun i => (i : ℚ) * (i : ℚ)) ⟨1 / 1000, 1, 0, 3⟩ true false]
  have : (estimate (fun i => (i : ℚ) * (i : ℚ)) ⟨1 / 1000, 1, 0, 3⟩).count = 3 := by decide +kernel
  simp only [estResult]
  rw [this]; rfl

end Stats
