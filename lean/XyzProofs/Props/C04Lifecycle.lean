import XyzProofs.Refine.Lifecycle
/-!
C04 / C06 on `Gen.sowCombosLc`, `Gen.sowCasesLc`, `Gen.reapCombosLc`, `Gen.reapCombosToDsLc`, `Gen.reapRunnerLc` — the bodies
of the `Crop` methods translated from the repository source on every run — for an arbitrary `fails` (which effects raise)
and arbitrary parsers `o`: what a sow that returns has written, in which order, and that every reap method reads exactly
that back (the round trip); that a constant given at the sow call wins; what a sow that raises has touched.
-/
namespace Lc
open Gen

variable {C K A V : Type}

section
variable {fails : LEff C K A V → Bool} {P : List (LEff C K A V)} {obj0 : LObj V} {saveFn fIN : Bool} {pc : C} {pk : K} {fa : A}
  {run : RunArgs C K A V} {bs nb rem sh : Option Int} {sc : Dict V}
  {choice : Except PyErr (Option Int × Option Int × Option Int)} {trace t : List (LEff C K A V)}

theorem sowTail_ok (h : (sowTail fails saveFn fIN pc pk fa run bs nb rem sh sc choice t).2 = none) :
    ∃ bs' nb' rem', choice = .ok (bs', nb', rem') ∧
      sowTail fails saveFn fIN pc pk fa run bs nb rem sh sc choice t =
        ((t ++ sowWrites saveFn fIN (infoOf pc pk fa bs' nb' rem' sh (some sc)) run, bs', nb', rem', sh, some sc), none) := by
  unfold sowTail at h ⊢
  cases choice with
  | error e => simp at h
  | ok v =>
    obtain ⟨bs', nb', rem'⟩ := v
    simp only at h ⊢
    obtain ⟨_, heq⟩ := thenK_none h
    exact ⟨bs', nb', rem', rfl, by rw [heq]; rfl⟩

theorem sowSpec_ok
    (h : (thenK (attempt fails P trace) obj0 fun t => sowTail fails saveFn fIN pc pk fa run bs nb rem sh sc choice t).2 = none) :
    ∃ bs' nb' rem', choice = .ok (bs', nb', rem') ∧
      (thenK (attempt fails P trace) obj0 fun t => sowTail fails saveFn fIN pc pk fa run bs nb rem sh sc choice t) =
        ((trace ++ P ++ sowWrites saveFn fIN (infoOf pc pk fa bs' nb' rem' sh (some sc)) run, bs', nb', rem', sh, some sc),
          none) := by
  obtain ⟨_, heq⟩ := thenK_none h
  rw [heq] at h ⊢
  exact sowTail_ok h

end

/-- **`sow_combos` returned** (translated body): the arguments were parsed, `choose_batch_settings` accepted the sorted
combos and the cases, and then — in this order — the two directories were made, the function file written (iff `save_fn`),
the farmer pickled without its function (iff there is one), the info file written, the Sower driven and closed.  The info
file holds the combos in name order, the parsed cases, the *chosen* batch settings, the shuffle the call resolved to and
the constants of the call; the runner driving the Sower got the same combos, cases and shuffle; the object is left with
the chosen batch settings. -/
theorem c04_lc_sow_combos_ok (o : LcOps C K A V) (fails) (combos : C) (cases : K) (constants : Dict V)
    (shArg bsArg nbArg : Option Int) (saveFn fIN hasRunner : Bool) (rc rr : Dict V)
    (bs nb rem sh : Option Int) (sc0 : Option (Dict V)) (trace)
    (h : (sowCombosLc o fails combos cases constants shArg bsArg nbArg saveFn fIN hasRunner rc rr bs nb rem sh sc0 trace).2 = none) :
    ∃ bs' nb' rem',
      chooseBatchSettings (o.combosTruthy (o.sortByName (o.parseCombos combos))) (o.combosProd (o.sortByName (o.parseCombos combos)))
        (o.casesTruthy (o.parseCases cases none)) (o.casesLen (o.parseCases cases none))
        (headAttr bsArg bs) (headAttr nbArg nb) rem = .ok (bs', nb', rem') ∧
      sowCombosLc o fails combos cases constants shArg bsArg nbArg saveFn fIN hasRunner rc rr bs nb rem sh sc0 trace =
        ((trace ++ [.parse .combos, .parse .cases, .parse .constants] ++
            sowWrites saveFn fIN
              (infoOf (o.sortByName (o.parseCombos combos)) (o.parseCases cases none) o.noneA bs' nb' rem' (headAttr shArg sh)
                (some (o.parseConstants constants)))
              { runner := .comboRunnerCore, combos := o.sortByName (o.parseCombos combos), cases := o.parseCases cases none,
                fnArgs := o.noneA, constants := sowKwargs hasRunner rc rr (o.parseConstants constants),
                shuffle := headAttr shArg sh, parse := true },
          bs', nb', rem', headAttr shArg sh, some (o.parseConstants constants)), none) := by
  rw [sowCombos_refines] at h ⊢
  exact sowSpec_ok h

/-- **`sow_cases` returned** (translated body): as for `sow_combos`, with the function's argument names parsed first, the
cases parsed against them, the combos handed on as given, the crop's own shuffle, `case_runner(parse=False)` -/
theorem c04_lc_sow_cases_ok (o : LcOps C K A V) (fails) (fnArgs : A) (cases : K) (combos : C) (constants : Dict V)
    (bsArg nbArg : Option Int) (saveFn fIN hasRunner : Bool) (rc rr : Dict V)
    (bs nb rem sh : Option Int) (sc0 : Option (Dict V)) (trace)
    (h : (sowCasesLc o fails fnArgs cases combos constants bsArg nbArg saveFn fIN hasRunner rc rr bs nb rem sh sc0 trace).2 = none) :
    ∃ bs' nb' rem',
      chooseBatchSettings (o.combosTruthy combos) (o.combosProd combos)
        (o.casesTruthy (o.parseCases cases (some (o.parseFnArgs fnArgs)))) (o.casesLen (o.parseCases cases (some (o.parseFnArgs fnArgs))))
        (headAttr bsArg bs) (headAttr nbArg nb) rem = .ok (bs', nb', rem') ∧
      sowCasesLc o fails fnArgs cases combos constants bsArg nbArg saveFn fIN hasRunner rc rr bs nb rem sh sc0 trace =
        ((trace ++ [.parse .fnArgs, .parse .cases, .parse .constants] ++
            sowWrites saveFn fIN
              (infoOf combos (o.parseCases cases (some (o.parseFnArgs fnArgs))) (o.parseFnArgs fnArgs) bs' nb' rem' sh
                (some (o.parseConstants constants)))
              { runner := .caseRunner, combos := combos, cases := o.parseCases cases (some (o.parseFnArgs fnArgs)),
                fnArgs := o.parseFnArgs fnArgs, constants := sowKwargs hasRunner rc rr (o.parseConstants constants),
                shuffle := sh, parse := false },
          bs', nb', rem', sh, some (o.parseConstants constants)), none) := by
  rw [sowCases_refines] at h ⊢
  exact sowSpec_ok h

/-- the info file is written before the Sower is driven, after the directories and the function file exist -/
theorem sowWrites_order (saveFn fIN : Bool) (info : FarmerPkl → InfoRec C K A V) (run : RunArgs C K A V) :
    ∃ pre f, sowWrites saveFn fIN info run = [.mkDir .batches true, .mkDir .results true] ++ pre ++ [.writeInfo (info f), .runSower run, .exitSower] ∧
      (∀ x ∈ pre, x = .pickleFn ∨ x = .writeFn ∨ x = .pickleFarmer true) ∧ (f = .none ↔ fIN = true) := by
  cases saveFn <;> cases fIN
  · exact ⟨[.pickleFarmer true], .pickled true, by simp [sowWrites, prepareEffs, saveInfoEffs], by simp, by simp⟩
  · exact ⟨[], .none, by simp [sowWrites, prepareEffs, saveInfoEffs], by simp, by simp⟩
  · exact ⟨[.pickleFn, .writeFn, .pickleFarmer true], .pickled true, by simp [sowWrites, prepareEffs, saveInfoEffs], by simp, by simp⟩
  · exact ⟨[.pickleFn, .writeFn], .none, by simp [sowWrites, prepareEffs, saveInfoEffs], by simp, by simp⟩

theorem reapArgsOf_infoOf (pc : C) (pk : K) (fa : A) (bs nb rem sh : Option Int) (sc : Option (Dict V)) (f : FarmerPkl)
    (runner : RunnerKind) (labels : Dict V) (parse : Bool) :
    reapArgsOf (infoOf pc pk fa bs nb rem sh sc f) runner labels parse =
      .ok { runner := runner, numBatches := nb, combos := pc, cases := pk, constants := labels, shuffle := sh, parse := parse } := by
  simp [reapArgsOf, infoOf]

theorem reapSpec_ok {fails : LEff C K A V → Bool} {info : InfoRec C K A V} {cu : Option Bool} {ai : Bool}
    {first pre : List (LEff C K A V)} {runner : RunnerKind} {labels : Dict V} {parse : Bool} {post} {trace}
    {args : ReapArgs C K A V} (ha : reapArgsOf info runner labels parse = .ok args)
    (h : (reapSpec fails info cu ai first pre runner labels parse post trace).2 = none) :
    (reapSpec fails info cu ai first pre runner labels parse post trace).1 =
      trace ++ (first ++ [.checkReady] ++ (if ai then [.allNan] else []) ++ [.loadInfo] ++ pre) ++
        ([.gather args] ++ (if runner = .comboRunnerToDs then [.label] else []) ++ [.reaperExit] ++
          (if Crop.cleanUpResolved cu ai then [.deleteAll] else []) ++ post) := by
  unfold reapSpec at h ⊢
  obtain ⟨_, heq⟩ := thenT_none h
  rw [heq, ha] at h ⊢
  exact attempt_ok_trace fails _ _ h

theorem reapSpec_error {fails : LEff C K A V → Bool} {info : InfoRec C K A V} {cu : Option Bool} {ai : Bool}
    {first pre : List (LEff C K A V)} {runner : RunnerKind} {labels : Dict V} {parse : Bool} {post} {trace} {e : PyErr}
    (ha : reapArgsOf info runner labels parse = .error e) :
    (reapSpec fails info cu ai first pre runner labels parse post trace).2 ≠ none := by
  intro h
  unfold reapSpec at h
  obtain ⟨_, heq⟩ := thenT_none h
  rw [heq, ha] at h
  cases h

theorem reapSpec_replays {fails : LEff C K A V → Bool} {pc : C} {pk : K} {fa : A} {bs nb rem sh : Option Int}
    {sc : Option (Dict V)} {f : FarmerPkl} {cu : Option Bool} {ai : Bool} {first pre : List (LEff C K A V)}
    {runner : RunnerKind} {labels : Dict V} {parse : Bool} {post} {trace}
    (h : (reapSpec fails (infoOf pc pk fa bs nb rem sh sc f) cu ai first pre runner labels parse post trace).2 = none) :
    LEff.gather { runner := runner, numBatches := nb, combos := pc, cases := pk, constants := labels, shuffle := sh,
                  parse := parse }
      ∈ (reapSpec fails (infoOf pc pk fa bs nb rem sh sc f) cu ai first pre runner labels parse post trace).1 := by
  rw [reapSpec_ok (reapArgsOf_infoOf ..) h]
  simp

/-- `settings[key]` raises for a key that was not written -/
theorem reapArgsOf_missing (info : InfoRec C K A V) (runner : RunnerKind) (labels : Dict V) (parse : Bool)
    (hk : info.numBatches = none ∨ info.combos = none ∨ info.cases = none) :
    reapArgsOf info runner labels parse = .error .keyError := by
  unfold reapArgsOf
  split
  · -- all three keys were read: against `hk`
    rename_i hn hc hk'
    rcases hk with h | h | h
    · rw [h] at hn; cases hn
    · rw [h] at hc; cases hc
    · rw [h] at hk'; cases hk'
  · rfl

/-- **`reap_combos` replays the sow** (translated bodies of both): on a crop whose info file was written by a `save_info`
with these values, a reap that returns built its Reaper with the saved `num_batches` and handed `combo_runner_core` the
saved combos, the saved cases and the saved shuffle (not the object's), with no constants -/
theorem c04_lc_reaper_replays_combos (o : LcOps C K A V) (fails) (pc : C) (pk : K) (fa : A) (bs nb rem sh : Option Int)
    (sc : Option (Dict V)) (f : FarmerPkl) (wait : Bool) (cu : Option Bool) (ai : Bool) (sbs snb srem ssh : Option Int) (trace)
    (h : (reapCombosLc o fails (infoOf pc pk fa bs nb rem sh sc f) wait cu ai sbs snb srem ssh trace).2 = none) :
    (LEff.gather { runner := .comboRunnerCore, numBatches := nb, combos := pc, cases := pk, constants := [], shuffle := sh,
                   parse := true } : LEff C K A V)
      ∈ (reapCombosLc o fails (infoOf pc pk fa bs nb rem sh sc f) wait cu ai sbs snb srem ssh trace).1 ∧
    ∀ a, LEff.gather a ∈ (reapCombosLc o fails (infoOf pc pk fa bs nb rem sh sc f) wait cu ai sbs snb srem ssh trace).1 →
      LEff.gather a ∈ trace ∨ (a.numBatches = nb ∧ a.shuffle = sh) := by
  rw [reapCombos_refines] at h ⊢
  refine ⟨reapSpec_replays h, fun a hmem => ?_⟩
  rw [reapSpec_ok (reapArgsOf_infoOf ..) h] at hmem
  -- `reap_combos` attempts one `gather`
  have hmem : LEff.gather a ∈ trace ∨ a = ⟨.comboRunnerCore, nb, pc, pk, [], sh, true⟩ := by simpa using hmem
  rcases hmem with hm | rfl
  · exact Or.inl hm
  · exact Or.inr ⟨rfl, rfl⟩

/-- **`reap_runner` replays the sow and labels with the sow-time constants laid over the runner's** (translated bodies) -/
theorem c06_lc_reaper_replays_runner (o : LcOps C K A V) (fails) (pc : C) (pk : K) (fa : A) (bs nb rem sh : Option Int)
    (sc : Option (Dict V)) (f : FarmerPkl) (wait : Bool) (cu : Option Bool) (ai : Bool) (sbs snb srem ssh : Option Int)
    (rc : Dict V) (toDf : Bool) (trace)
    (h : (reapRunnerLc o fails (infoOf pc pk fa bs nb rem sh sc f) wait cu ai sbs snb srem ssh rc toDf trace).2 = none) :
    (LEff.gather { runner := .comboRunnerToDs, numBatches := nb, combos := pc, cases := pk,
                   constants := dictMerge rc (sc.getD []), shuffle := sh, parse := false } : LEff C K A V)
      ∈ (reapRunnerLc o fails (infoOf pc pk fa bs nb rem sh sc f) wait cu ai sbs snb srem ssh rc toDf trace).1 := by
  rw [reapRunner_refines] at h ⊢
  exact reapSpec_replays h

/-- **`reap_combos_to_ds` replays the sow** and labels with the constants it is given (parsed iff `parse`) -/
theorem c06_lc_reaper_replays_to_ds (o : LcOps C K A V) (fails) (pc : C) (pk : K) (fa : A) (bs nb rem sh : Option Int)
    (sc : Option (Dict V)) (f : FarmerPkl) (wait : Bool) (cu : Option Bool) (ai : Bool) (sbs snb srem ssh : Option Int)
    (constants : Dict V) (parse toDf : Bool) (trace)
    (h : (reapCombosToDsLc o fails (infoOf pc pk fa bs nb rem sh sc f) wait cu ai sbs snb srem ssh constants parse toDf trace).2 = none) :
    (LEff.gather { runner := .comboRunnerToDs, numBatches := nb, combos := pc, cases := pk,
                   constants := (if parse then o.parseConstants constants else constants), shuffle := sh, parse := parse } : LEff C K A V)
      ∈ (reapCombosToDsLc o fails (infoOf pc pk fa bs nb rem sh sc f) wait cu ai sbs snb srem ssh constants parse toDf trace).1 := by
  rw [reapCombosToDs_refines] at h ⊢
  exact reapSpec_replays h

/-- on an info file in which a key the reap reads was not written `reap_combos` raises (so `save_info` must write
`num_batches`, `combos`, `cases`) -/
theorem c04_lc_missing_key_raises (o : LcOps C K A V) (fails) (info : InfoRec C K A V) (wait : Bool) (cu : Option Bool) (ai : Bool)
    (sbs snb srem ssh : Option Int) (trace)
    (hk : info.numBatches = none ∨ info.combos = none ∨ info.cases = none) :
    (reapCombosLc o fails info wait cu ai sbs snb srem ssh trace).2 ≠ none := by
  rw [reapCombos_refines]
  exact reapSpec_error (reapArgsOf_missing info _ _ _ hk)

theorem dictGet_merge (a b : Dict V) (k : String) : dictGet (dictMerge a b) k = (dictGet b k).orElse fun _ => dictGet a k := by
  unfold dictGet dictMerge
  rw [List.find?_append]
  cases h : List.find? (fun kv => kv.1 == k) b <;> simp

/-- **a sow-time constant overrides the runner's own, both in the arguments that are sown and in the labels of the reap** -/
theorem c06_lc_sow_constants_win (hasRunner : Bool) (rc rr sc : Dict V) (k : String) (v : V) (h : dictGet sc k = some v) :
    dictGet (sowKwargs hasRunner rc rr sc) k = some v ∧ dictGet (dictMerge rc sc) k = some v := by
  cases hasRunner <;> simp [sowKwargs, dictGet_merge, h]

/-- a runner constant that the sow call does not mention is sown and labels the reap as the runner has it (a resource
of the same name is overridden by it in what is sown, as in a direct run) -/
theorem c06_lc_runner_constants_kept (rc rr sc : Dict V) (k : String) (hsc : dictGet sc k = none) :
    dictGet (dictMerge rc sc) k = dictGet rc k ∧
    dictGet (sowKwargs true rc rr sc) k = (dictGet rc k).orElse fun _ => dictGet rr k := by
  simp [sowKwargs, dictGet_merge, hsc]

/-- effects that change the crop directory -/
def isWrite : LEff C K A V → Bool
  | .mkDir _ _ | .writeFn | .writeInfo _ | .runSower _ | .exitSower | .deleteAll | .writeOther => true
  | _ => false

theorem sowTail_error_trace (fails : LEff C K A V → Bool) (saveFn fIN : Bool) (pc : C) (pk : K) (fa : A) (run : RunArgs C K A V)
    (bs nb rem sh : Option Int) (sc : Dict V) (e : PyErr) (t) :
    sowTail fails saveFn fIN pc pk fa run bs nb rem sh sc (.error e) t = ((t, bs, nb, rem, sh, some sc), some e) := rfl

/-- **a `sow_combos` that raises while parsing or in `choose_batch_settings` leaves the directory untouched** (translated
body): every effect it attempted was a parser call -/
theorem c04_lc_sow_combos_untouched (o : LcOps C K A V) (fails) (combos : C) (cases : K) (constants : Dict V)
    (shArg bsArg nbArg : Option Int) (saveFn fIN hasRunner : Bool) (rc rr : Dict V)
    (bs nb rem sh : Option Int) (sc0 : Option (Dict V)) (trace)
    (hfail : (∃ p ∈ [ParseKind.combos, .cases, .constants], fails (.parse p) = true) ∨
      ∃ e, chooseBatchSettings (o.combosTruthy (o.sortByName (o.parseCombos combos))) (o.combosProd (o.sortByName (o.parseCombos combos)))
        (o.casesTruthy (o.parseCases cases none)) (o.casesLen (o.parseCases cases none))
        (headAttr bsArg bs) (headAttr nbArg nb) rem = .error e) :
    (sowCombosLc o fails combos cases constants shArg bsArg nbArg saveFn fIN hasRunner rc rr bs nb rem sh sc0 trace).2 ≠ none ∧
    ∀ x ∈ (sowCombosLc o fails combos cases constants shArg bsArg nbArg saveFn fIN hasRunner rc rr bs nb rem sh sc0 trace).1.1,
      x ∈ trace ∨ isWrite x = false := by
  rw [sowCombos_refines]
  unfold sowCombosSpec
  have hparse : ∀ x ∈ ([.parse .combos, .parse .cases, .parse .constants] : List (LEff C K A V)), isWrite x = false := by
    intro x h
    simp only [List.mem_cons, List.mem_nil_iff, or_false] at h
    rcases h with rfl | rfl | rfl <;> rfl
  rcases hfail with ⟨p, hp, hf⟩ | ⟨e, he⟩
  · rw [thenK_fail fails _ trace _ _ (.parse p) (by simpa using hp) hf]
    exact ⟨by simp, fun x hx => (attempt_mem fails _ trace x hx).imp_right (hparse x)⟩
  · rw [he]
    constructor
    · intro h
      obtain ⟨_, heq⟩ := thenK_none h
      rw [heq] at h
      cases h
    · intro x hx
      rcases thenK_trace_mem False (fun t' h' => Or.inl h') hx with h | h | h
      · exact Or.inl h
      · exact Or.inr (hparse x h)
      · exact h.elim

/-- not an effect that writes a batch file -/
def noBatch (x : LEff C K A V) : Prop := (∀ a, x ≠ .runSower a) ∧ x ≠ .exitSower

section
variable {fails : LEff C K A V → Bool} (hinfo : ∀ i, fails (.writeInfo i) = true) {P : List (LEff C K A V)} {obj0 : LObj V}
  {saveFn fIN : Bool} {pc : C} {pk : K} {fa : A} {run : RunArgs C K A V} {bs nb rem sh : Option Int} {sc : Dict V}
  {choice : Except PyErr (Option Int × Option Int × Option Int)} {trace t : List (LEff C K A V)} {x : LEff C K A V}
include hinfo

theorem stop_at_info (pre : List (LEff C K A V)) {i : InfoRec C K A V} {post : List (LEff C K A V)}
    (hpre : ∀ y ∈ pre, noBatch y)
    (hmem : x ∈ (attempt fails (pre ++ LEff.writeInfo i :: post) t).1) : x ∈ t ∨ noBatch x := by
  rw [attempt_stops fails pre post t _ (hinfo i)] at hmem
  rcases attempt_mem fails _ t x hmem with h | h
  · exact Or.inl h
  · right
    rcases List.mem_append.mp h with hp | hp
    · exact hpre x hp
    · simp only [List.mem_cons, List.mem_nil_iff, or_false] at hp
      subst hp
      exact ⟨fun a => by simp, by simp⟩

theorem sowTail_no_batch
    (hx : x ∈ (sowTail fails saveFn fIN pc pk fa run bs nb rem sh sc choice t).1.1) : x ∈ t ∨ noBatch x := by
  unfold sowTail at hx
  split at hx
  · exact Or.inl hx
  · rename_i bs' nb' rem'
    obtain ⟨pre, f, heq, hpre, _⟩ := sowWrites_order saveFn fIN (infoOf pc pk fa bs' nb' rem' sh (some sc)) run
    unfold sowWrites at heq
    rw [thenK_ret_trace, heq] at hx
    refine stop_at_info hinfo ([.mkDir .batches true, .mkDir .results true] ++ pre) ?_ hx
    intro y hy
    rcases List.mem_append.mp hy with hy | hy
    · simp only [List.mem_cons, List.mem_nil_iff, or_false] at hy
      rcases hy with rfl | rfl <;> exact ⟨fun a => by simp, by simp⟩
    · rcases hpre y hy with rfl | rfl | rfl <;> exact ⟨fun a => by simp, by simp⟩

theorem sowSpec_no_batch (hP : ∀ y ∈ P, noBatch y) :
    ∀ x ∈ (thenK (attempt fails P trace) obj0 fun t => sowTail fails saveFn fIN pc pk fa run bs nb rem sh sc choice t).1.1,
      x ∈ trace ∨ noBatch x := by
  intro x hx
  rcases thenK_trace_mem (noBatch x) (fun t' h' => sowTail_no_batch hinfo h') hx with h | h | h
  · exact Or.inl h
  · exact Or.inr (hP x h)
  · exact Or.inr h

end

theorem parse_noBatch (ps : List ParseKind) : ∀ y ∈ ps.map (LEff.parse (C := C) (K := K) (A := A) (V := V)), noBatch y := by
  intro y hy
  obtain ⟨p, _, rfl⟩ := List.mem_map.mp hy
  exact ⟨fun a => by simp, by simp⟩

/-- **no batch file without the info file** (translated bodies of `sow_combos` / `sow_cases`): if writing the info file
raises (whatever would be written), the Sower is never driven -/
theorem c04_lc_no_batch_without_info (o : LcOps C K A V) (fails) (combos : C) (cases : K) (constants : Dict V)
    (shArg bsArg nbArg : Option Int) (saveFn fIN hasRunner : Bool) (rc rr : Dict V)
    (bs nb rem sh : Option Int) (sc0 : Option (Dict V)) (trace)
    (hinfo : ∀ i, fails (.writeInfo i) = true) :
    ∀ x ∈ (sowCombosLc o fails combos cases constants shArg bsArg nbArg saveFn fIN hasRunner rc rr bs nb rem sh sc0 trace).1.1,
      x ∈ trace ∨ noBatch x := by
  rw [sowCombos_refines]
  exact sowSpec_no_batch hinfo (parse_noBatch [.combos, .cases, .constants])

theorem c04_lc_no_batch_without_info_cases (o : LcOps C K A V) (fails) (fnArgs : A) (cases : K) (combos : C) (constants : Dict V)
    (bsArg nbArg : Option Int) (saveFn fIN hasRunner : Bool) (rc rr : Dict V)
    (bs nb rem sh : Option Int) (sc0 : Option (Dict V)) (trace)
    (hinfo : ∀ i, fails (.writeInfo i) = true) :
    ∀ x ∈ (sowCasesLc o fails fnArgs cases combos constants bsArg nbArg saveFn fIN hasRunner rc rr bs nb rem sh sc0 trace).1.1,
      x ∈ trace ∨ noBatch x := by
  rw [sowCases_refines]
  exact sowSpec_no_batch hinfo (parse_noBatch [.fnArgs, .cases, .constants])

/-! Non-vacuity: a concrete instance (combos as (name, values) pairs, cases as rows, constants as numbers). -/

def exIns (x : String × List Nat) : List (String × List Nat) → List (String × List Nat)
  | [] => [x]
  | y :: ys => if x.1 < y.1 then x :: y :: ys else y :: exIns x ys

def exOps : LcOps (List (String × List Nat)) (List (List Nat)) (List String) Nat where
  noneC := []
  noneK := []
  noneA := []
  parseCombos := id
  parseCases := fun k _ => k
  parseFnArgs := id
  parseConstants := id
  sortByName := fun c => c.foldl (fun acc x => exIns x acc) []
  combosTruthy := fun c => !c.isEmpty
  combosProd := fun c => (c.map (fun x => (x.2.length : Int))).foldl (· * ·) 1
  casesTruthy := fun k => !k.isEmpty
  casesLen := fun k => k.length
  genFnArgs := fun _ _ => ["a"]
  genCases := fun n _ => (List.range n.toNat).map fun i => [i]

/-- 2 × 3 combos given in the order b, a; batchsize 4 asked for at the call; a runner with constants; nothing fails -/
def exSow (fails : LEff (List (String × List Nat)) (List (List Nat)) (List String) Nat → Bool) :=
  sowCombosLc exOps fails [("b", [0, 1, 2]), ("a", [0, 1])] [] [("t", 7)] (some 3) (some 4) none true false true
    [("t", 1), ("u", 2)] [("r", 9)] none none none (some 0) none []

-- the sow returns; 3 parser calls + 2 directories + 2 for the function + pickled farmer + info + Sower run + exit
example : (exSow fun _ => false).2 = none := by decide
example : (exSow fun _ => false).1.1.length = 11 := by decide
-- the object is left with batchsize 4, 2 batches, remainder 0, shuffle 3, and remembers the sow-time constants
example : (exSow fun _ => false).1.2 = (some 4, some 2, some 0, some 3, some [("t", 7)]) := by rfl
-- the info file (9th effect) holds the combos in name order, the chosen settings, the shuffle and the constants
example : (match (exSow fun _ => false).1.1[8]? with
    | some (LEff.writeInfo i) => i.combos == some [("a", [0, 1]), ("b", [0, 1, 2])] && i.batchsize == some (some 4) &&
        i.numBatches == some (some 2) && i.remainder == some (some 0) && i.shuffle == some (some 3) &&
        i.constants == some [("t", 7)] && i.farmer == some (.pickled true)
    | _ => false) = true := by decide
-- the Sower is driven (10th effect) with the same combos and shuffle, the sow-time constant t = 7 overriding the runner's t = 1
example : (match (exSow fun _ => false).1.1[9]? with
    | some (LEff.runSower a) => a.combos == [("a", [0, 1]), ("b", [0, 1, 2])] && a.shuffle == some 3 &&
        dictGet a.constants "t" == some 7 && dictGet a.constants "u" == some 2 && dictGet a.constants "r" == some 9
    | _ => false) = true := by decide
-- batchsize 4 and num_batches 5 do not fit 6 settings: ValueError, and only the three parser calls were attempted
example : (sowCombosLc exOps (fun _ => false) [("b", [0, 1, 2]), ("a", [0, 1])] [] [] none (some 4) (some 5) true true false
    [] [] none none none none none []).2 = some .valueError := by decide
example : (sowCombosLc exOps (fun _ => false) [("b", [0, 1, 2]), ("a", [0, 1])] [] [] none (some 4) (some 5) true true false
    [] [] none none none none none []).1.1.length = 3 := by decide
-- the info file cannot be written: 9 effects attempted, the Sower never driven
example : (exSow fun e => match e with | .writeInfo _ => true | _ => false).1.1.length = 9 := by decide
-- reading that info file back: reap_runner builds the Reaper with 2 batches, replays shuffle 3, labels t = 7 (not 1), u = 2
example : (match (reapRunnerLc exOps (fun _ => false)
      (infoOf [("a", [0, 1]), ("b", [0, 1, 2])] [] [] (some 4) (some 2) (some 0) (some 3) (some [("t", 7)]) (.pickled true))
      false none false none none none (some 99) [("t", 1), ("u", 2)] false []).1[3]? with
    | some (LEff.gather a) => a.numBatches == some 2 && a.shuffle == some 3 && a.combos == [("a", [0, 1]), ("b", [0, 1, 2])] &&
        dictGet a.constants "t" == some 7 && dictGet a.constants "u" == some 2 && a.parse == false
    | _ => false) = true := by decide
-- an info file without the `_batch_remainder` / `num_batches` keys: KeyError for the latter
example : (reapCombosLc exOps (fun _ => false) ({ combos := some [], cases := some [] } : InfoRec _ _ _ Nat)
    false none false none none none none []).2 = some .keyError := by decide

end Lc
