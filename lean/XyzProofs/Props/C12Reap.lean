import XyzProofs.Props.C12Skel
/-!
`Gen.reapDispatch` is the body of `Crop.reap(wait, sync, overwrite, clean_up, allow_incomplete)` translated on every run
(harness/anchors_checkbad.py): for each type of `self.farmer`, the method the call is handed on to and the value every
parameter of that method receives (the keyword dict `opts` is followed symbolically; defaults are read off the callee's
signature).  `Gen.reapDefaults` are the defaults of reap's own parameters, `Gen.deleteAllRemoves` says that `delete_all`
removes the crop directory itself.  The C12 skeleton theorems are restated for `reapSk`, the effect skeleton of this
entry point, for every farmer kind at once.
-/
namespace Skel
open Gen

/-- the method each farmer kind belongs to -/
def targetOf : Farmer → ReapTarget
  | .none => .combos
  | .runner => .runner
  | .harvester => .harvest
  | .sampler => .samples

/-- **the dispatch is total and faithful**: every farmer kind goes to its own method, with the farmer, and every option
the method has reaches it unchanged (a parameter the method does not have is recorded as `false` / `none`; `to_df` is
left at `reap_runner`'s default) -/
theorem reapDispatch_faithful (farmer : Farmer) (wait sync : Bool) (overwrite cleanUp : Option Bool) (ai : Bool) :
    Gen.reapDispatch farmer wait sync overwrite cleanUp ai =
      { target := targetOf farmer,
        farmerPassed := farmer != .none,
        wait := wait,
        sync := (farmer == .harvester || farmer == .sampler) && sync,
        overwrite := if farmer = .harvester then overwrite else none,
        cleanUp := cleanUp,
        allowIncomplete := ai,
        toDf := false } := by
  cases farmer <;> simp [Gen.reapDispatch, Gen.Default.reapDispatch, targetOf]

/-- a call that leaves every option out means `wait=False, sync=True, overwrite=None, clean_up=None, allow_incomplete=False` -/
theorem reapDefaults_spec : Gen.reapDefaults = (false, true, none, none, false) := by
  simp [Gen.reapDefaults, Gen.Default.reapDefaults]

/-- `delete_all` removes the crop directory itself (`shutil.rmtree(self.location)`, errors not ignored) -/
theorem deleteAll_removes_location : Gen.deleteAllRemoves = true := by
  simp [Gen.deleteAllRemoves, Gen.Default.deleteAllRemoves]

/-- run the call `reap` makes, on the effect skeletons of the four methods -/
def runCall (fails : Eff → Bool) (c : ReapCall) (trace : List Eff) : List Eff × Option PyErr :=
  match c.target with
  | .combos => reapCombosSk fails c.wait c.cleanUp c.allowIncomplete trace
  | .runner => reapRunnerSk fails c.wait c.cleanUp c.allowIncomplete c.toDf trace
  | .harvest => reapHarvestSk fails c.wait c.sync c.cleanUp c.allowIncomplete trace
  | .samples => reapSamplesSk fails c.wait c.sync c.cleanUp c.allowIncomplete trace

/-- the effect skeleton of `Crop.reap` -/
def reapSk (fails : Eff → Bool) (farmer : Farmer) (wait sync : Bool) (overwrite cleanUp : Option Bool) (ai : Bool)
    (trace : List Eff) : List Eff × Option PyErr :=
  runCall fails (Gen.reapDispatch farmer wait sync overwrite cleanUp ai) trace

theorem reapSk_eq (fails : Eff → Bool) (farmer : Farmer) (wait sync : Bool) (overwrite cleanUp : Option Bool) (ai : Bool)
    (trace : List Eff) :
    reapSk fails farmer wait sync overwrite cleanUp ai trace =
      match farmer with
      | .none => reapCombosSk fails wait cleanUp ai trace
      | .runner => reapRunnerSk fails wait cleanUp ai false trace
      | .harvester => reapHarvestSk fails wait sync cleanUp ai trace
      | .sampler => reapSamplesSk fails wait sync cleanUp ai trace := by
  cases farmer <;> simp [reapSk, reapDispatch_faithful, runCall, targetOf]

/-- **`Crop.reap`, whatever the farmer: after a reap that returned normally the crop was deleted iff the resolved
`clean_up` says so** — the caller's `clean_up` and `allow_incomplete` are the ones that decide -/
theorem c12_reap_deletes_iff (fails : Eff → Bool) (farmer : Farmer) (wait sync : Bool) (overwrite cu : Option Bool) (ai : Bool)
    (h : (reapSk fails farmer wait sync overwrite cu ai []).2 = none) :
    (Eff.deleteAll ∈ (reapSk fails farmer wait sync overwrite cu ai []).1 ↔ Crop.cleanUpResolved cu ai = true) := by
  rw [reapSk_eq] at h ⊢
  cases farmer
  · exact reapCombos_deletes_iff fails wait cu ai h
  · exact reapRunner_deletes_iff fails wait cu ai false h
  · exact reapHarvest_deletes_iff fails wait sync cu ai h
  · exact reapSamples_deletes_iff fails wait sync cu ai h

/-- deletion is the last effect of `Crop.reap` and everything before it went through (for a Runner crop the inner reap
deletes and the runner then records its last result: `reapRunner_deleteLast_partial`) -/
theorem c12_reap_deleteLast (fails : Eff → Bool) (farmer : Farmer) (wait sync : Bool) (overwrite cu : Option Bool) (ai : Bool)
    (hf : farmer ≠ .runner) :
    DeleteLast fails (reapSk fails farmer wait sync overwrite cu ai []).1 := by
  rw [reapSk_eq]
  cases farmer
  · exact reapCombos_deleteLast fails wait cu ai
  · exact absurd rfl hf
  · exact reapHarvest_deleteLast fails wait sync cu ai
  · exact reapSamples_deleteLast fails wait sync cu ai

/-- a `Crop.reap` that raised has removed nothing (unless the removal itself is what raised) -/
theorem c12_reap_errorKeeps (fails : Eff → Bool) (farmer : Farmer) (wait sync : Bool) (overwrite cu : Option Bool) (ai : Bool)
    (hf : farmer ≠ .runner) :
    ErrorKeeps fails (reapSk fails farmer wait sync overwrite cu ai []) := by
  rw [reapSk_eq]
  cases farmer
  · exact reapCombos_errorKeeps fails wait cu ai
  · exact absurd rfl hf
  · exact reapHarvest_errorKeeps fails wait sync cu ai
  · exact reapSamples_errorKeeps fails wait sync cu ai

/-- **through `Crop.reap`, a Harvester / Sampler crop is deleted only after the data was merged and saved** -/
theorem c12_reap_sync_before_delete (fails : Eff → Bool) (farmer : Farmer) (wait : Bool) (overwrite cu : Option Bool) (ai : Bool)
    (hf : farmer = .harvester ∨ farmer = .sampler) :
    Before [.checkReady, .gather, .label, .reaperExit, .setLast, .sync] (reapSk fails farmer wait true overwrite cu ai []).1 := by
  rw [reapSk_eq]
  rcases hf with rfl | rfl
  · exact reapHarvest_sync_before_delete fails wait cu ai
  · exact reapSamples_sync_before_delete fails wait cu ai

/-! Non-vacuity: the default call on a Sampler crop delivers, then deletes; `clean_up=False` reaches the method. -/
example : (reapSk (fun _ => false) .sampler false true none none false []).1
    = [.loadInfo, .checkReady, .loadInfo, .gather, .label, .reaperExit, .setLast, .setLast, .sync, .deleteAll] := by
  rfl
example : Eff.deleteAll ∉ (reapSk (fun _ => false) .harvester false true none (some false) false []).1 := by
  decide
example : (Gen.reapDispatch .harvester true false (some true) (some false) true) =
    { target := .harvest, farmerPassed := true, wait := true, sync := false, overwrite := some true, cleanUp := some false,
      allowIncomplete := true, toDf := false } := by
  rw [reapDispatch_faithful]; rfl

end Skel
