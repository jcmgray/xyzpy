import XyzProofs.Props.C16
import XyzProofs.Refine.Script
/-!
# C16 — statements directly on the translated body of `gen_cluster_script`

`genOpts` = `Gen.gcsOpts` (option handling up to `opts = {…}`), `genTail` = `Gen.gcsTail` (from there to the `format`
call), both regenerated from the source on every run.
-/
namespace Scr
open Gen

/-- **the field assignment of the translated option handling**: whenever it returns, the mapping binds exactly the
nineteen base fields, in the order of the source's dict literal -/
theorem c16_gen_fields (sched : Sched) (mode : Mode) (r : Raw) (base : Opts)
    (h : genOpts sched.name mode.name r = .ok base) : base.map (·.1) = baseFields := by
  rw [gcsOpts_refines] at h
  simp only [resolve] at h
  obtain ⟨_, _, h⟩ := Py.bind_eq_ok h
  obtain ⟨_, _, h⟩ := Py.bind_eq_ok h
  obtain ⟨_, _, h⟩ := Py.bind_eq_ok h
  obtain ⟨_, _, h⟩ := Py.bind_eq_ok h
  obtain ⟨_, _, h⟩ := Py.bind_eq_ok h
  cases h
  rfl

/-- **closed**: the template the translated assembly returns is the one of the configuration, and the option mapping
it returns — the argument of `format` — binds every field of that mode, in particular every `{field}` of the template;
so `format` cannot raise a KeyError. -/
theorem c16_gen_closed (sched : Sched) (mode : Mode) (explicit : Option (List Nat)) (B : Nat) (done : List Nat) (r : Raw)
    (base : Opts) (tpl : Str) (o : Opts)
    (h1 : genOpts sched.name mode.name r = .ok base)
    (h2 : genTail sched.name mode.name explicit B done base = .ok (tpl, o)) :
    tpl = assemble sched mode (chooseIds explicit B done).amode ∧
    (∀ n ∈ supplied mode, ∃ v, lookup o n = some v) ∧
    (∀ n sp, Seg.fld n sp ∈ parseTpl tpl → ∃ v, lookup o n = some v) := by
  obtain ⟨o', he, hl⟩ := gcsTail_refines sched mode explicit B done base
  rw [h2] at he
  injection he with he
  injection he with ht ho
  subst ho
  have hkeys := c16_gen_fields sched mode r base h1
  have hsup : ∀ n ∈ supplied mode, ∃ v, lookup o n = some v := by
    intro n hn
    rw [hl n]
    apply lookup_of_key
    cases mode <;> simpa [mkScript, supplied, hkeys] using hn
  have htpl : tpl = assemble sched mode (chooseIds explicit B done).amode := by rw [ht]; rfl
  refine ⟨htpl, hsup, ?_⟩
  intro n sp hm
  rw [htpl] at hm
  exact hsup n ((c16_fields_closed sched mode _).2 n sp hm).1

example : ∃ base tpl o, genOpts (chars! "sge") (chars! "array") { condaEnv := .bool false } = .ok base ∧
    genTail (chars! "sge") (chars! "array") (some [2]) 3 [] base = .ok (tpl, o) ∧
    lookup o (chars! "run_stop") = some (.int 1) := ⟨_, _, _, rfl, rfl, by decide +kernel⟩

end Scr
