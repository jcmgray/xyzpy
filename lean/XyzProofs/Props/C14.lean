import XyzProofs.Lemmas.StoreIO
import XyzProofs.Lemmas.Dataset
/-!
# C14 — saving and loading a dataset gives the same dataset back (partial)

What is proved here is the *path and attribute logic* of `xyzpy/manage.py` as modelled in `XyzModel/StoreIO.lean`,
over the extracted extension table / rule / coercion strings.  The engines' encoders and decoders (HDF5, pickle) are
NOT modelled: `c14_roundtrip_modulo_attrs` carries the explicit hypothesis `Codec.Inverse` (reading inverts writing, on every
dataset of the model), which the correspondence check exercises with real round trips.
-/
namespace StoreIO
open DS

theorem appendN_one (s ext : String) : appendN s ext 1 = s ++ ext := rfl

/-- **the file-name rule**: the name itself when it already carries a known extension, else the name followed by the
engine's extension — once -/
theorem c14_path_rule (name : String) (e : Engine) (ext : String) (he : extOf e = some ext) :
    autoAddExt name e = if hasKnownExt name then name else name ++ ext := by
  unfold autoAddExt
  rw [he]
  rfl -- computes `Gen.extAppendCount` to 1 and `appendN name ext 1` to `name ++ ext`

/-- every engine has its extension in the (extracted) table, the documented one -/
theorem c14_ext_table :
    extOf .h5netcdf = some ".h5" ∧ extOf .netcdf4 = some ".nc" ∧ extOf .joblib = some ".dmp" ∧ extOf .zarr = some ".zarr" := by
  simp [extOf, Engine.key, Gen.engineExt, Gen.Default.engineExt, alookup]

theorem extOf_isSome (e : Engine) : ∃ ext, extOf e = some ext := by
  cases e <;> simp [c14_ext_table]

/-- **adding the extension is idempotent** — and after it no engine's extension is ever added again, so saving,
loading, merging and deleting may each apply the rule without drifting apart -/
theorem c14_ext_idempotent (name : String) (e e' : Engine) :
    autoAddExt (autoAddExt name e) e' = autoAddExt name e := by
  obtain ⟨ext, he⟩ := extOf_isSome e
  by_cases h : hasKnownExt name = true
  · simp [autoAddExt, h]
  · rw [c14_path_rule name e ext he, if_neg h]
    simp [autoAddExt, hasKnownExt_append name ext e.key (alookup_mem _ _ _ he)]

/-- **one path for save, load, merge and delete**: for every name and engine `load_ds` reads the path `save_ds`
writes; `save_merge_ds` probes that path, loads from it with the same engine and writes to it; `Harvester.delete_ds`
removes it -/
theorem c14_same_path (name : String) (e : Engine) :
    loadPath name e = savePath name e ∧
    smExistsPath name e = savePath name e ∧ smLoadEngine e = e ∧ smLoadPath name e = savePath name e ∧
    hvDeletePath name e = savePath name e ∧
    savePath (savePath name e) e = savePath name e := by
  simp only [savePath_eq, loadPath_eq, smExistsPath_eq, smLoadEngine_eq, smLoadPath_eq, hvDeletePath_eq,
    c14_ext_idempotent, and_self]

/-- **the attribute rule**: the netCDF engines rewrite exactly `None` / `True` / `False` to the strings `"None"` /
`"True"` / `"False"` and leave every other attribute, all coordinates and all variables as they are; joblib and zarr
rewrite nothing -/
theorem c14_attr_rule :
    (coercesAttrs .h5netcdf = true ∧ coercesAttrs .netcdf4 = true ∧ coercesAttrs .joblib = false ∧
      coercesAttrs .zarr = false) ∧
    (coerceAttr .none = .str "None" ∧ coerceAttr (.bool true) = .str "True" ∧ coerceAttr (.bool false) = .str "False" ∧
      (∀ s, coerceAttr (.str s) = .str s) ∧ (∀ i, coerceAttr (.int i) = .int i) ∧ (∀ r, coerceAttr (.num r) = .num r)) ∧
    (∀ e d, (coerceAttrs e d).coords = d.coords ∧ (coerceAttrs e d).vars = d.vars ∧
      (coerceAttrs e d).attrs = if coercesAttrs e then d.attrs.map (fun kv => (kv.1, coerceAttr kv.2)) else d.attrs) := by
  refine ⟨?_, ?_, ?_⟩
  · simp [coercesAttrs, Engine.key, Gen.attrExempt, Gen.Default.attrExempt]
  · simp [coerceAttr, Gen.attrNoneStr, Gen.Default.attrNoneStr, Gen.attrTrueStr, Gen.Default.attrTrueStr,
      Gen.attrFalseStr, Gen.Default.attrFalseStr]
  · intro e d
    refine ⟨coords_coerceAttrs e d, vars_coerceAttrs e d, ?_⟩
    unfold coerceAttrs
    split <;> rfl

/-- **round trip modulo attributes**: ASSUMING the engine's reader inverts its writer (`Codec.Inverse`), loading what
was saved under the same name and engine returns the dataset with its attributes rewritten by the attribute rule —
dimensions, coordinates, variables and values unchanged —, and saving touches no other path -/
theorem c14_roundtrip_modulo_attrs {β : Type} (c : Codec β) (hinv : c.Inverse) (s : GStore β) (name : String)
    (e : Engine) (d : Dataset) :
    loadVia c (saveVia c s name e d) name e = .ok (coerceAttrs e d) ∧
    (coerceAttrs e d).coords = d.coords ∧ (coerceAttrs e d).vars = d.vars ∧
    ∀ k, k ≠ savePath name e → alookup (saveVia c s name e d) k = alookup s k := by
  refine ⟨?_, coords_coerceAttrs e d, vars_coerceAttrs e d, ?_⟩
  · simp [loadVia, saveVia, alookup_sset, hinv e]
  · intro k hk
    have : ¬ autoAddExt name e = k := fun x => hk (by rw [savePath_eq, x])
    simp [saveVia, alookup_sset, this]

/-- the executable model's codec (dataset tagged with its engine) satisfies the assumption, so the assumption is
consistent -/
theorem tagCodec_inverse : tagCodec.Inverse := by
  intro e d; simp [tagCodec]

/-! ### Non-vacuity -/

example : autoAddExt "h1" .h5netcdf = "h1.h5" := by
  rw [c14_path_rule "h1" .h5netcdf ".h5" c14_ext_table.1]
  decide +kernel
example : autoAddExt "dir.h5x/run" .joblib = "dir.h5x/run" := by
  rw [c14_path_rule "dir.h5x/run" .joblib ".dmp" c14_ext_table.2.2.1]
  decide +kernel
example : coerceAttrs .h5netcdf { attrs := [("a", .none), ("b", .int 3)] } = { attrs := [("a", .str "None"), ("b", .int 3)] } := by
  simp [coerceAttrs, c14_attr_rule.1.1, coerceAttr, Gen.attrNoneStr, Gen.Default.attrNoneStr]
example : coerceAttrs .joblib { attrs := [("a", .none)] } = { attrs := [("a", .none)] } := by
  simp [coerceAttrs, c14_attr_rule.1.2.2.1]

end StoreIO
