import XyzModel.ParseCases
import XyzProofs.Lemmas.PyDict
/-!
# C02 — every accepted spelling of a case list means the same cases

`parse_cases` (xyzpy/gen/prepare.py) normalises what the user wrote into a list of *argument ↦ value* dicts.  The
theorems say the documented spellings are interchangeable: dicts are taken as they are; tuples are zipped with the
argument names; and for a single argument bare values — numbers **or strings of any length** — mean the same as
1-tuples.  The test that recognises bare rows (`Gen.casesWrapBare`) is read off the source on every run.
-/
namespace ParseCases
open List

/-- with distinct argument names, `dict(zip(fn_args, vals))` is just the zip (`dictZip` is `Py.dictOfList` of the zip) -/
theorem dictZip_nodup (fa : List String) (hnd : fa.Nodup) (vals : List V) : dictZip fa vals = fa.zip vals :=
  Gen.Py.dictOfList_of_nodup (fa.zip vals) (Gen.Py.zip_keys_nodup fa vals hnd)

theorem mapM'_tuples (ls : List (List V)) : mapM' items (ls.map Row.tuple) = .ok ls := by
  induction ls with
  | nil => rfl
  | cons l ls ih => simp [mapM', items, ih]

/-- **dicts are taken as they are** -/
theorem c02_pc_dicts (fa : Option (List String)) (ds : List Case) (d : Case) (hd : d ≠ []) :
    parse fa (.dicts ds) = .ok ds ∧ parse fa (.oneDict d) = .ok [d] := by
  refine ⟨rfl, ?_⟩
  cases d with
  | nil => exact absurd rfl hd
  | cons x xs => rfl

/-- rows that are tuples are each turned into `dict(zip(fn_args, row))`, whatever the argument names -/
theorem parse_tuples (fa : List String) (ls : List (List V)) :
    parse (some fa) (.rows (ls.map .tuple)) = .ok (ls.map (dictZip fa)) := by
  cases ls with
  | nil => rfl
  | cons l ls =>
    have hw : Gen.casesWrapBare (rowIsStr (Row.tuple l)) (rowIsIterable (Row.tuple l)) = false := by
      simp [Gen.casesWrapBare, Gen.Default.casesWrapBare, rowIsStr, rowIsIterable]
    have hm := mapM'_tuples (l :: ls)
    simp only [List.map_cons] at hm
    simp only [parse, List.map_cons, hw, Bool.false_eq_true, if_false, hm]

/-- **tuples are zipped with the argument names**, row by row -/
theorem c02_pc_tuples (fa : List String) (hnd : fa.Nodup) (ls : List (List V)) :
    parse (some fa) (.rows (ls.map .tuple)) = .ok (ls.map fun l => fa.zip l) := by
  rw [parse_tuples]
  congr 1
  exact List.map_congr_left fun l _ => dictZip_nodup fa hnd l

def isScalar : V → Bool
  | .tup _ => false
  | _ => true

/-- **one argument: bare values are 1-tuples** — for numbers and for strings of any length (the first row decides) -/
theorem c02_pc_bare (a : String) (v : V) (vs : List V) (hv : isScalar v = true) :
    parse (some [a]) (.rows ((v :: vs).map .bare)) = .ok ((v :: vs).map fun x => [(a, x)]) ∧
    parse (some [a]) (.rows ((v :: vs).map .bare)) = parse (some [a]) (.rows ((v :: vs).map fun x => .tuple [x])) := by
  have hw : Gen.casesWrapBare (rowIsStr (Row.bare v)) (rowIsIterable (Row.bare v)) = true := by
    cases v with
    | num n | str s => simp [Gen.casesWrapBare, Gen.Default.casesWrapBare, rowIsStr, rowIsIterable]
    | tup l => simp [isScalar] at hv
  have h1 : parse (some [a]) (.rows ((v :: vs).map .bare)) = .ok ((v :: vs).map fun x => [(a, x)]) := by
    simp only [parse, List.map_cons, hw, if_true, List.map_map]
    congr 1
  refine ⟨h1, ?_⟩
  have h2 := parse_tuples [a] ((v :: vs).map fun x => [x])
  rw [List.map_map, List.map_map] at h2
  rw [h1]
  exact h2.symm

/-- without argument names the tuple spelling is refused -/
theorem c02_pc_needs_fn_args (r : Row) (rs : List Row) : parse none (.rows (r :: rs)) = .error .type := rfl

/-- nothing requested -/
theorem c02_pc_empty (fa : Option (List String)) :
    parse fa .none = .ok [] ∧ parse fa (.rows []) = .ok [] ∧ parse fa (.dicts []) = .ok [] ∧ parse fa (.oneDict []) = .ok [] :=
  ⟨rfl, rfl, rfl, rfl⟩

/-! Non-vacuity -/
example : parse (some ["a"]) (.rows [.bare (.str "beta"), .bare (.str "al")]) =
    .ok [[("a", .str "beta")], [("a", .str "al")]] := by rfl
example : parse (some ["a", "b"]) (.rows [.tuple [.num 1, .str "x"], .tuple [.num 2, .str "y"]]) =
    .ok [[("a", .num 1), ("b", .str "x")], [("a", .num 2), ("b", .str "y")]] := by rfl

end ParseCases
