import XyzProofs.Lemmas.PlotPrep
/-!
# C17 — classic line, scatter, histogram and heat-map plots draw exactly the data  (partial claim)

The theorems are about the executable model `XyzModel/PlotPrep.lean` of the data preparation.  The model is tied to the
code by extraction of the mask expression and of the auto-legend bound and by differential execution of every drawn
artist (harness/props/c17.py); the translated preparation functions are compared with it in `Props/C17Src.lean` and
`Refine/PlotSrc.lean`.  matplotlib rendering, bin/colour numerics and xarray indexing are validated by
execution only.
-/
namespace PlotPrep
open List

/-- **count, order, labels**: a line/scatter/histogram panel holds exactly one series per entry of the z values, in
their order, labelled `str(z)` of the z coordinate (resp. the variable name; no label for a single series) -/
theorem c17_series_count_order_labels (vw : View) (call : Call) (h : call.kind ≠ .heatmap) :
    (plotSingle vw call).series.length = (prepareZVals vw.ds call).length ∧
    (plotSingle vw call).series.map (·.label) = prepareZLabels (prepareZVals vw.ds call) ∧
    (∀ z, call.z = some z → (plotSingle vw call).series.map (·.label) = (vw.ds.labels z).map some) ∧
    (call.z = none → call.multi = true →
      (plotSingle vw call).series.map (·.label) = (if call.kind = .histogram then call.x else call.y).map some) ∧
    (call.z = none → call.multi = false → (plotSingle vw call).series.map (·.label) = [none]) := by
  have hl : (plotSingle vw call).series.map (·.label) = prepareZLabels (prepareZVals vw.ds call) := by
    rw [series_plotSingle vw call h]
    split
    · exact hist_labels ..
    · exact xySeries_labels ..
  refine ⟨?_, hl, ?_, ?_, ?_⟩
  · simpa [prepareZLabels] using congrArg length hl
  · intro z hz
    rw [hl]
    simp only [prepareZVals, hz, prepareZLabels]
    apply ext_getElem <;> simp
  · intro hz hm
    rw [hl]
    simp only [prepareZVals, hz, hm, prepareZLabels, if_true, map_map]
    simp [Function.comp_def]
  · intro hz hm
    rw [hl]
    simp [prepareZVals, hz, hm, prepareZLabels]

/-- **points**: the drawn (x, y) pairs of a series are exactly the pairs of its slice where both are finite, in the
slice's order -/
theorem c17_points (vw : View) (call : Call) (xn yn : String) (carry : Bool) (lab : Option String) :
    ((mkSeries vw call xn yn carry lab).x).zip ((mkSeries vw call xn yn carry lab).y) =
      ((sliceXs vw call xn yn carry).zip (sliceYs vw call xn yn carry)).filter
        fun p => p.1.isFinite && p.2.isFinite := by
  rw [(xy_mkSeries vw call xn yn carry lab).1, (xy_mkSeries vw call xn yn carry lab).2, applyMask_zipWith_zip]
  simp only [Gen.maskIsBothFinite, Gen.Default.maskIsBothFinite]

/-- **carried variables**: c / y_err / x_err go through the same mask, so the k-th carried value belongs to the k-th
drawn point -/
theorem c17_points_carried (vw : View) (call : Call) (xn yn : String) (lab : Option String) :
    (∀ n, call.yErr = some n → ∃ ye, (mkSeries vw call xn yn true lab).ye = some ye ∧
      (((mkSeries vw call xn yn true lab).x).zip ((mkSeries vw call xn yn true lab).y)).zip ye =
        (((sliceXs vw call xn yn true).zip (sliceYs vw call xn yn true)).zip (sliceOf vw call xn yn true n)).filter
          fun t => t.1.1.isFinite && t.1.2.isFinite) ∧
    (∀ n, call.xErr = some n → ∃ xe, (mkSeries vw call xn yn true lab).xe = some xe ∧
      (((mkSeries vw call xn yn true lab).x).zip ((mkSeries vw call xn yn true lab).y)).zip xe =
        (((sliceXs vw call xn yn true).zip (sliceYs vw call xn yn true)).zip (sliceOf vw call xn yn true n)).filter
          fun t => t.1.1.isFinite && t.1.2.isFinite) ∧
    (∀ n, call.kind = .scatter → call.c = some n → ∃ c, (mkSeries vw call xn yn true lab).c = some c ∧
      (((mkSeries vw call xn yn true lab).x).zip ((mkSeries vw call xn yn true lab).y)).zip c =
        (((sliceXs vw call xn yn true).zip (sliceYs vw call xn yn true)).zip (sliceOf vw call xn yn true n)).filter
          fun t => t.1.1.isFinite && t.1.2.isFinite) := by
  obtain ⟨hye, hxe, hc⟩ := carried_mkSeries vw call xn yn lab
  rw [(xy_mkSeries vw call xn yn true lab).1, (xy_mkSeries vw call xn yn true lab).2]
  have key : ∀ xs ys zs : List Cell,
      ((applyMask (zipWith (fun a b => Gen.maskIsBothFinite a.isFinite b.isFinite) xs ys) xs).zip
        (applyMask (zipWith (fun a b => Gen.maskIsBothFinite a.isFinite b.isFinite) xs ys) ys)).zip
        (applyMask (zipWith (fun a b => Gen.maskIsBothFinite a.isFinite b.isFinite) xs ys) zs) =
      ((xs.zip ys).zip zs).filter fun t => t.1.1.isFinite && t.1.2.isFinite := by
    intro xs ys zs
    rw [applyMask_zipWith_zip₃]
    simp only [Gen.maskIsBothFinite, Gen.Default.maskIsBothFinite]
  refine ⟨?_, ?_, ?_⟩
  · intro n hn
    exact ⟨_, by rw [hye, hn]; rfl, key _ _ _⟩
  · intro n hn
    exact ⟨_, by rw [hxe, hn]; rfl, key _ _ _⟩
  · intro n hk hn
    exact ⟨_, by rw [hc hk, hn]; rfl, key _ _ _⟩

/-- **the mask is made of x and y alone**: the arrays whose finiteness enters `not_null` are `data['x']` and `data['y']`
(read off the source); what that means for a carried error / colour variable is `c17_mask_ignores_carried` and
`c17_point_kept_iff` -/
theorem c17_mask_arrays : Gen.maskArrays = ["x", "y"] := by
  simp only [Gen.maskArrays, Gen.Default.maskArrays]

theorem c17_mask_ignores_carried (vw : View) (call : Call) (xn yn : String) (carry : Bool) (bd : List String)
    (xs ys : List Cell) :
    notNull vw bd xs ys (extraMaskNames call xn yn carry) = zipWith (fun a b => a.isFinite && b.isFinite) xs ys := by
  rw [notNull_mkSeries]
  simp only [Gen.maskIsBothFinite, Gen.Default.maskIsBothFinite]

/-- a point with finite x and y is drawn even if its error / colour value is not finite: the k-th position of the slice
is kept iff x and y are finite there, and the carried value kept with it is whatever the variable holds (`c17_points_carried`) -/
theorem c17_point_kept_iff (vw : View) (call : Call) (xn yn : String) (carry : Bool) (bd : List String)
    (xs ys : List Cell) (k : Nat) (hx : k < xs.length) (hy : k < ys.length) :
    (notNull vw bd xs ys (extraMaskNames call xn yn carry))[k]? = some (xs[k].isFinite && ys[k].isFinite) := by
  rw [c17_mask_ignores_carried]
  simp [getElem?_zipWith, getElem?_eq_getElem hx, getElem?_eq_getElem hy]

/-- membership / order form of `c17_points`: a pair is drawn iff it is a pair of the slice with both parts finite;
drawn pairs keep the slice's order; every drawn value is finite -/
theorem c17_points_mem (vw : View) (call : Call) (xn yn : String) (carry : Bool) (lab : Option String) :
    (∀ a b, (a, b) ∈ ((mkSeries vw call xn yn carry lab).x).zip ((mkSeries vw call xn yn carry lab).y) ↔
      (a, b) ∈ (sliceXs vw call xn yn carry).zip (sliceYs vw call xn yn carry) ∧ a.isFinite = true ∧ b.isFinite = true) ∧
    (((mkSeries vw call xn yn carry lab).x).zip ((mkSeries vw call xn yn carry lab).y)).Sublist
      ((sliceXs vw call xn yn carry).zip (sliceYs vw call xn yn carry)) := by
  rw [c17_points]
  refine ⟨?_, filter_sublist⟩
  intro a b
  simp

/-- **all-NaN series**: a slice without a single finite pair is drawn as an empty series (and still counted and
labelled, by `c17_series_count_order_labels`) -/
theorem c17_all_nan_series_empty (vw : View) (call : Call) (xn yn : String) (carry : Bool) (lab : Option String)
    (h : ∀ p ∈ (sliceXs vw call xn yn carry).zip (sliceYs vw call xn yn carry),
      (p.1.isFinite && p.2.isFinite) = false) :
    (mkSeries vw call xn yn carry lab).x = [] ∧ (mkSeries vw call xn yn carry lab).y = [] := by
  have hm : ∀ b ∈ zipWith (fun a b => Gen.maskIsBothFinite a.isFinite b.isFinite)
      (sliceXs vw call xn yn carry) (sliceYs vw call xn yn carry), b = false := by
    intro b hb
    obtain ⟨p, hp, rfl⟩ := mem_zipWith_zip _ _ _ _ hb
    simpa only [Gen.maskIsBothFinite, Gen.Default.maskIsBothFinite] using h p hp
  rw [(xy_mkSeries vw call xn yn carry lab).1, (xy_mkSeries vw call xn yn carry lab).2]
  exact ⟨applyMask_all_false _ _ hm, applyMask_all_false _ _ hm⟩

/-- **histogram**: each series bins exactly the finite values of its slice (each once, in order) -/
theorem c17_hist_values (vw : View) (call : Call) (zs : List ZVal) :
    (prepareHistogram vw call zs).length = zs.length ∧
    ∀ k (h : k < zs.length) (h' : k < (prepareHistogram vw call zs).length),
      (prepareHistogram vw call zs)[k].x = (histCells vw call zs[k]).filter Cell.isFinite ∧
      (∀ c, c ∈ (prepareHistogram vw call zs)[k].x ↔ c ∈ histCells vw call zs[k] ∧ c.isFinite = true) ∧
      ((prepareHistogram vw call zs)[k].x).Sublist (histCells vw call zs[k]) := by
  refine ⟨by simp [prepareHistogram], ?_⟩
  intro k h h'
  have hx : (prepareHistogram vw call zs)[k].x = (histCells vw call zs[k]).filter Cell.isFinite := by
    simp only [prepareHistogram, getElem_map]
    rfl
  rw [hx]
  exact ⟨rfl, fun c => by simp, filter_sublist⟩

/-- **heat map**: row `j`, column `i` of the mesh shows z at (x_i, y_j) (non-finite values masked); the mesh has one
row per y coordinate and one column per x coordinate -/
theorem c17_heatmap_mesh (vw : View) (call : Call) :
    (prepareHeatmap vw call).length = vw.ds.size call.y1 ∧
    (∀ j (hj : j < (prepareHeatmap vw call).length), (prepareHeatmap vw call)[j].length = vw.ds.size call.x1) ∧
    (∀ j i (hj : j < (prepareHeatmap vw call).length) (hi : i < (prepareHeatmap vw call)[j].length),
      (prepareHeatmap vw call)[j][i] =
        maskInvalid (vw.ds.cell (call.z.getD "") ((call.x1, i) :: (call.y1, j) :: vw.fixed))) := by
  refine ⟨by simp [prepareHeatmap], ?_, ?_⟩
  · intro j hj; simp [prepareHeatmap]
  · intro j i hj hi; simp [prepareHeatmap]

/-- **panels**: the panel at grid position (i, j) shows the plot of the slice (row = i-th row coordinate, col = j-th
column coordinate); the top row is titled with the column coordinate and the last column labelled with the row
coordinate; the grid has one row per row coordinate and one column per column coordinate -/
theorem c17_panels (ds : DS) (call : Call) (i j : Nat)
    (hi : i < nRows ds call.row) (hj : j < nCols ds call.col) :
    (plot ds call).panels.length = nRows ds call.row ∧
    ∃ p, (((plot ds call).panels)[i]?).bind (·[j]?) = some p ∧ p.i = i ∧ p.j = j ∧
      p.series = (plotSingle { ds := ds, fixed := gridFixed call.row call.col i j } call).series ∧
      p.mesh = (plotSingle { ds := ds, fixed := gridFixed call.row call.col i j } call).mesh ∧
      p.title = gridTitle ds call i j ∧
      p.rlabel = gridRowLabel ds call i j (nCols ds call.col) := by
  -- the number of columns is read off the first row, which exists
  have hncols : ((calcRowCol ds call.row call.col).headD []).length = nCols ds call.col := by
    obtain ⟨n, hn⟩ : ∃ n, nRows ds call.row = n + 1 := ⟨nRows ds call.row - 1, by omega⟩
    simp [calcRowCol_eq, hn, range_succ_eq_map]
  refine ⟨by simp [plot, calcRowCol_eq], panelOf ds call (nCols ds call.col) (i, j, gridFixed call.row call.col i j), ?_,
    rfl, rfl, rfl, rfl, rfl, rfl⟩
  simp only [plot, hncols]
  simp [calcRowCol_eq, hi, hj]

/-- **colour structure** (any number of series): with `colors=True` the k-th series is coloured by the colour map at the
normalised value of *its own* z coordinate (at the relative position `k/(n-1)` for a non-numeric coordinate); with
`c=` (lineplot) by the colour map at the normalised value of the `c` variable in *its own* slice -/
theorem c17_colour_structure_partial {Q C : Type} (cmap : Q → C) (norm : Cell → Q) (ofRat : Rat → Q)
    (vw : View) (call : Call) (zs : List ZVal) :
    (xySeries vw call zs).length = zs.length ∧
    ∀ k (h : k < zs.length) (h' : k < (xySeries vw call zs).length),
      ((xySeries vw call zs)[k].q = quantOf vw call zs[k] zs.length) ∧
      (∀ z i l, call.c = none → call.colors = .auto → call.z = some z → zs[k] = .coord i l →
        ((xySeries vw call zs)[k].q).map (colourOf cmap norm ofRat) =
          some (if call.zstr then cmap (ofRat (linspace01 i zs.length)) else cmap (norm (vw.ds.cell z [(z, i)])))) ∧
      (∀ c, call.kind = .lineplot → call.c = some c →
        ((xySeries vw call zs)[k].q).map (colourOf cmap norm ofRat) =
          (((sliceView vw call zs[k]).flat ((sliceView vw call zs[k]).freeDims c) c).head?).map
            fun v => cmap (norm v)) := by
  refine ⟨by simp [xySeries], ?_⟩
  intro k h h'
  have hq : (xySeries vw call zs)[k].q = quantOf vw call zs[k] zs.length := by
    simp only [xySeries, getElem_map]
  refine ⟨hq, ?_, ?_⟩
  · intro z i l hc hcol hz hzv
    rw [hq, hzv]
    cases hk : call.kind <;> cases hs : call.zstr <;> simp [quantOf, hc, hcol, hz, hk, hs, colourOf]
  · intro c hk hc
    rw [hq]
    simp only [quantOf, hk, hc, Option.map_map]
    congr 1

/-- **colour limits**: a limit passed by the caller is the limit of the normalisation, whatever its value (zero and
negative numbers included); an end that is not given is the `zlims` entry if there is one, else the end of the finite
data range of the colour quantity.  (From the extracted defaulting tests of `calc_color_norm`.) -/
theorem c17_colour_limits (call : Call) :
    (∀ l, call.vmin = some l → (colourLimits call).1 = .given) ∧
    (∀ l, call.vmax = some l → (colourLimits call).2 = .given) ∧
    (call.vmin = none → (colourLimits call).1 = if call.zlimLo && zlimsApply call then .zlim else .data) ∧
    (call.vmax = none → (colourLimits call).2 = if call.zlimHi && zlimsApply call then .zlim else .data) ∧
    (colourLimits call).1 ≠ .unset ∧ (colourLimits call).2 ≠ .unset := by
  simp only [colourLimits, limitSource, Gen.vminDefaulted, Gen.Default.vminDefaulted, Gen.vmaxDefaulted,
    Gen.Default.vmaxDefaulted]
  refine ⟨?_, ?_, ?_, ?_, ?_, ?_⟩
  · intro l h; simp [h]
  · intro l h; simp [h]
  · intro h; simp [h]
  · intro h; simp [h]
  · cases call.vmin <;> simp <;> split <;> simp
  · cases call.vmax <;> simp <;> split <;> simp

/-- the figure carries that normalisation, one for all its panels -/
theorem c17_figure_limits (ds : DS) (call : Call) : (plot ds call).limits = colourLimits call := rfl

/-- **legend or colour bar** (from the extracted bound): with no explicit choice, 2..10 series get a legend and no colour
bar; fewer than 2 or more than 10 colour-mapped series get a colour bar and no legend; a `c` variable always gets a colour bar;
explicit choices are honoured -/
theorem c17_legend_or_colorbar (n : Nat) :
    (legendOrColorbar n none none false true = (decide (1 < n ∧ n ≤ 10), !decide (1 < n ∧ n ≤ 10))) ∧
    (legendOrColorbar n none none false false = (decide (1 < n ∧ n ≤ 10), false)) ∧
    ((legendOrColorbar n none none true false).2 = true) ∧
    (∀ a b ca co, legendOrColorbar n (some a) (some b) ca co = (a, b)) := by
  refine ⟨?_, ?_, ?_, ?_⟩
  · simp [legendOrColorbar, autoLegend_eq]
  · simp [legendOrColorbar, autoLegend_eq]
  · simp [legendOrColorbar]
  · intro a b ca co
    cases a <;> cases b <;> simp [legendOrColorbar]

/-- **pure**: no preparation step writes to the dataset (or the call) the plotter was given: after the whole
`prepare_data_single` pipeline the state still holds the very same view, and every panel of a grid is computed from
the one dataset passed in -/
theorem c17_pure (s : PState) :
    (stepZVals s).view = s.view ∧ (stepZLabels s).view = s.view ∧ (stepLegend s).view = s.view ∧
    (stepData s).view = s.view ∧ (prepareDataSingle s).view = s.view ∧ (prepareDataSingle s).call = s.call := by
  have hd : ∀ t : PState, (stepData t).view = t.view ∧ (stepData t).call = t.call := by
    intro t
    unfold stepData
    cases t.call.kind <;> exact ⟨rfl, rfl⟩
  refine ⟨rfl, rfl, rfl, (hd s).1, ?_, ?_⟩ <;> unfold prepareDataSingle <;> cases s.call.kind <;>
    simp only [hd, stepLegend, stepZLabels, stepZVals]

theorem c17_pure_grid (ds : DS) (call : Call) (fixed : Env) :
    (plotSingle { ds := ds, fixed := fixed } call).view.ds = ds :=
  congrArg View.ds (c17_pure { view := { ds := ds, fixed := fixed }, call := call }).2.2.2.2.1

/-! ### Non-vacuity -/

def exDS : DS :=
  { dims := [{ name := "x", labels := ["1.0", "2.0"], tlabels := ["1.0", "2.0"] },
             { name := "z", labels := ["a", "b", "c"], tlabels := ["a", "b", "c"] }]
    vars := [{ name := "x", dims := ["x"], cells := [.fin 100, .fin 101] },
             { name := "z", dims := ["z"], cells := [.fin 200, .fin 201, .fin 202] },
             -- y(z, x): second series has a NaN, third is all-NaN
             { name := "y", dims := ["z", "x"], cells := [.fin 0, .fin 1, .nan, .fin 3, .nan, .inf false] }] }

def exCall : Call := { kind := .lineplot, x := ["x"], y := ["y"], z := some "z", zstr := true, colors := .auto }

example : (plotSingle { ds := exDS } exCall).series.map (·.label) = [some "a", some "b", some "c"] := by decide

example : (plotSingle { ds := exDS } exCall).series.map (·.x) = [[.fin 100, .fin 101], [.fin 101], []] := by decide

example : (plotSingle { ds := exDS } exCall).series.map (·.y) = [[.fin 0, .fin 1], [.fin 3], []] := by decide

example : (plotSingle { ds := exDS } { exCall with zstr := false }).series.map (·.q) =
    [some (.cell (.fin 200)), some (.cell (.fin 201)), some (.cell (.fin 202))] := by decide

example : linspace01 1 3 = 1 / 2 := by unfold linspace01; simp

example : (prepareHeatmap { ds := exDS } { kind := .heatmap, x := ["x"], y := ["z"], z := some "y" }) =
    [[.fin 0, .fin 1], [.nan, .fin 3], [.nan, .nan]] := by decide

def exCallRow : Call := { kind := .lineplot, x := ["x"], y := ["y"], row := some "z" }

example : (plot exDS exCallRow).panels.flatten.map (·.rlabel) = [some "z = a", some "z = b", some "z = c"] := by decide

example : (plot exDS exCallRow).panels.flatten.map (fun p => (p.i, p.j)) = [(0, 0), (1, 0), (2, 0)] := by decide

example : (plot exDS exCallRow).panels.flatten.map (fun p => p.series.map (·.y)) =
    [[[.fin 0, .fin 1]], [[.fin 3]], [[]]] := by decide

-- y_err is NaN / inf at points with finite (x, y): all three points of each series stay, the bars keep their values
def exDSErr : DS :=
  { exDS with vars := exDS.vars ++ [{ name := "ye", dims := ["z", "x"], cells := [.nan, .fin 11, .fin 12, .inf false, .fin 14, .fin 15] }] }

example : (plotSingle { ds := exDSErr } { exCall with yErr := some "ye" }).series.map (·.x) = [[.fin 100, .fin 101], [.fin 101], []] := by decide

example : (plotSingle { ds := exDSErr } { exCall with yErr := some "ye" }).series.map (·.ye) =
    [some [.nan, .fin 11], some [.inf false], some []] := by decide

-- vmin = 0 is a given limit; an end left out comes from the data (or zlims)
example : colourLimits { exCall with vmin := some ⟨true⟩ } = (.given, .data) := by decide
example : colourLimits { exCall with vmin := some ⟨false⟩, vmax := some ⟨true⟩ } = (.given, .given) := by decide
example : colourLimits { exCall with zstr := false, zlimHi := true, vmin := some ⟨true⟩ } = (.given, .zlim) := by decide
example : colourLimits exCall = (.data, .data) := by decide

example : legendOrColorbar 10 none none false true = (true, false) ∧ legendOrColorbar 11 none none false true = (false, true) := by decide

end PlotPrep
