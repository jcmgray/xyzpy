import XyzProofs.Props.C04
/-!
# C09 — a partial reap shows finished batches exactly and everything else as missing

`fin i` says whether batch `i` has a result file.  The placeholder for a missing batch has the length of the sown
batch file it stands in for (the Reaper reads that file), so no arithmetic on batch sizes is involved.
-/
namespace Crop
open Core List

variable {β : Type}

theorem range_zip_snoc {γ} (l : List γ) (x : γ) :
    (List.range (l ++ [x]).length).zip (l ++ [x]) = (List.range l.length).zip l ++ [(l.length, x)] := by
  simp only [List.length_append, List.length_cons, List.length_nil, Nat.zero_add, List.range_succ]
  rw [List.zip_append (by simp)]
  simp

/-- **the Reaper's stream on a partly grown crop**: finished batches contribute their exact results, every other batch
contributes one placeholder per setting it contains -/
theorem c09_stream_partial (f : List Nat → β) (ph : β) (fin : Nat → Bool) (o : Obj) (d : Dir β)
    (bsl : List (List (List Nat))) (hne : ∀ b ∈ bsl, b ≠ [])
    (hb : ∀ j (hj : j < bsl.length), lookup d.batches (j + 1) = some bsl[j])
    (hfin : ∀ j (hj : j < bsl.length), fin (j + 1) = true → lookup d.results (j + 1) = some (.good (bsl[j].map f)))
    (hnot : ∀ j (hj : j < bsl.length), fin (j + 1) = false → lookup d.results (j + 1) = none) :
    reapStream o d bsl.length (some ph) = .ok (partialStream f ph fin bsl) := by
  have h := reapStream_of_parts o d (some ph)
    ((List.range bsl.length).zip bsl |>.map fun (j, b) => b.map fun x => if fin (j + 1) then f x else ph) fun j hj => by
    have hj' : j < bsl.length := by simpa using hj
    cases hf : fin (j + 1) with
    | true => simp [reapFile, hfin j hj' hf, hne _ (List.getElem_mem hj'), hf]
    | false => simp [reapFile, hnot j hj' hf, hb j hj', hf, List.map_const']
  simpa [partialStream] using h

/-- **where each value lands**: if the reaper's `k`-th call returns `vals[k]`, then after sorting the (index, result)
pairs back, enumeration index `σ[k]` holds `vals[k]` — for every permutation `σ` -/
theorem c09_unshuffle_positions (P : Perms) (seed n : Nat) (vals : List β) (hlen : vals.length = n)
    (hseed : seed ≠ 0) (hperm : P seed n ~ List.range n) :
    ∃ r, reorder P seed n vals = .ok r ∧ r.length = n ∧
      ∀ k (hk : k < n), r[(P seed n)[k]'(by rw [hperm.length_eq]; simpa using hk)]? = vals[k]? := by
  have hσlen : (P seed n).length = n := by rw [hperm.length_eq]; simp
  have hkeys := mergeSort_keys ((P seed n).zip vals) n (by rwa [List.map_fst_zip (by omega)])
  have hslen : (((P seed n).zip vals).mergeSort keyLE).length = n := by simpa using congrArg List.length hkeys
  refine ⟨(((P seed n).zip vals).mergeSort keyLE).map Prod.snd, by simp [reorder, hlen, hseed],
    by rw [List.length_map]; exact hslen, ?_⟩
  intro k hk
  -- the pair sown at position `k` is somewhere in the sorted list, and its key says where
  have hmem : ((P seed n)[k]'(by omega), vals[k]'(by omega)) ∈ ((P seed n).zip vals).mergeSort keyLE := by
    apply (mergeSort_perm _ _).mem_iff.mpr
    rw [← List.getElem_zip (h := by simp; omega)]
    exact List.getElem_mem _
  obtain ⟨p, hp, hpe⟩ := List.getElem_of_mem hmem
  have hkey := congrArg (·[p]?) hkeys
  simp only [List.getElem?_map, List.getElem?_eq_getElem hp, hpe, Option.map_some,
    List.getElem?_range (by omega : p < n), Option.some.injEq] at hkey
  subst hkey
  simp [List.getElem?_eq_getElem hp, hpe, List.getElem?_eq_getElem (by omega : k < vals.length)]


/-- **partial reap, linear form**: with `allow_incomplete` the reap succeeds on any non-empty set of finished batches and
its linear results are the partial stream (un-shuffled by `reorder`) -/
theorem c09_partial_linear (P : Perms) (f : List Nat → β) (nl : β → β) (fin : Nat → Bool) (s : St β) (d : Dir β)
    (info : Info) (bsl : List (List (List Nat))) (cu : Option Bool) (r0 : β) (rest0 : List β) (k0 : Nat)
    (hd : s.dir = some d) (hinfo : d.info = some info) (hnb : info.nb = bsl.length)
    (hne : ∀ b ∈ bsl, b ≠ [])
    (hb : ∀ j (hj : j < bsl.length), lookup d.batches (j + 1) = some bsl[j])
    (hfin : ∀ j (hj : j < bsl.length), fin (j + 1) = true → lookup d.results (j + 1) = some (.good (bsl[j].map f)))
    (hnot : ∀ j (hj : j < bsl.length), fin (j + 1) = false → lookup d.results (j + 1) = none)
    (hhead : d.results.head? = some (k0, .good (r0 :: rest0)))
    (hgood : ∀ kv ∈ d.results, ∃ rs, kv.2 = .good rs) :
    ∃ res, reapLinear P nl s { allowIncomplete := true, wait := false, cleanUp := cu } =
        (reorder P info.shuffle info.sweep.locs.length (partialStream f (nl r0) fin bsl)).map (fun r => (s, info, r)) ∧
      res = partialStream f (nl r0) fin bsl := by
  refine ⟨_, ?_, rfl⟩
  have hnan : allNanResult nl d = .ok (nl r0) := by
    obtain ⟨rest, hres⟩ := List.head?_eq_some_iff.mp hhead
    have hany : (d.results.any fun kv => kv.2.isBad) = false := by
      rw [List.any_eq_false]
      intro x hx
      obtain ⟨rs, hrs⟩ := hgood x hx
      simp [hrs, ResFile.isBad]
    rw [allNanResult, hany, hres]
    rfl
  have hstream := c09_stream_partial f (nl r0) fin s.obj d bsl hne hb hfin hnot
  unfold reapLinear
  simp only [readyGate, Bool.true_or, if_true, Bool.not_true, Bool.false_eq_true, if_false, hd, hnan, Except.map,
    hinfo, hnb, hstream]
  cases reorder P info.shuffle info.sweep.locs.length (partialStream f (nl r0) fin bsl) <;> rfl

/-- **refused**: without `allow_incomplete` and without `wait`, a crop that is not ready is refused with the
not-ready error (no state is returned: nothing was touched) -/
theorem c09_refused (P : Perms) (nl : β → β) (s : St β) (cu : Option Bool)
    (h : (isReady s).2 = false) :
    reapRaw P nl s { allowIncomplete := false, wait := false, cleanUp := cu } = .error .notReady := by
  unfold reapRaw reapLinear readyGate
  simp [h]

/-- **nothing is deleted by default** after a partial reap: `clean_up=None` resolves to `not allow_incomplete` -/
theorem c09_no_delete_by_default : cleanUpResolved none true = false ∧ cleanUpResolved none false = true := by
  simp [cleanUpResolved_eq]

/-- explicit `clean_up` values are honoured whatever `allow_incomplete` is -/
theorem c09_explicit_clean_up (b a : Bool) : cleanUpResolved (some b) a = b := by
  simp [cleanUpResolved_eq]

/-- `allow_incomplete` needs at least one finished batch to infer the placeholder from -/
theorem c09_needs_one_finished (nl : β → β) (d : Dir β) (h : d.results = []) :
    allNanResult nl d = .error .noResultForNan := by
  simp [allNanResult, h]

/-! Non-vacuity: 5 settings in batches of 2 (short last batch), batches {1, 3} finished. -/
example : partialStream (fun l => l.sum) 99 (fun i => i == 1 || i == 3) [[[0], [1]], [[2], [3]], [[4]]]
    = [0, 1, 99, 99, 4] := by decide

/-! ### the statement at the level of the returned nested tuple -/

/-- **partial reap, position by position**: under the stored shuffle (any permutation), the linear result at the
enumeration index of the setting sown at stream position `k` is `f` of that setting if its batch is finished, and the
placeholder otherwise -/
theorem c09_partial_positions (P : Perms) (f : List Nat → β) (ph : β) (fin : Nat → Bool) (c : Batch.Cfg)
    (sw : Sweep) (seed : Nat) (hseed : seed ≠ 0) (hperm : P seed sw.locs.length ~ List.range sw.locs.length) :
    ∃ r, reorder P seed sw.locs.length (partialStream f ph fin (sownBatches P c sw seed)) = .ok r ∧
      r.length = sw.locs.length ∧
      ∀ k (hk : k < sw.locs.length), ∃ t, (tagged (sownBatches P c sw seed))[k]? = some t ∧
        t.1 = sw.locs.getD ((P seed sw.locs.length).getD k 0) [] ∧
        r[(P seed sw.locs.length).getD k 0]? = some (if fin t.2 then f t.1 else ph) := by
  have hσlen : (P seed sw.locs.length).length = sw.locs.length := by simpa using hperm.length_eq
  -- the settings in stream order, each with its batch, are the permuted locations
  have htag : (tagged (sownBatches P c sw seed)).map Prod.fst =
      (P seed sw.locs.length).map fun i => sw.locs.getD i [] := by
    rw [tagged_fst, (c04_batches_cover P c sw seed (Or.inr hperm)).1]
    simp [sowStream, seedStrategy, hseed, runLinear, applyPerm]
  have htlen : (tagged (sownBatches P c sw seed)).length = sw.locs.length := by
    simpa [hσlen] using congrArg List.length htag
  obtain ⟨r, hr, hrlen, hpos⟩ := c09_unshuffle_positions P seed sw.locs.length
    (partialStream f ph fin (sownBatches P c sw seed)) (by rw [partialStream_eq_tagged]; simpa using htlen) hseed hperm
  refine ⟨r, hr, hrlen, fun k hk => ?_⟩
  have hkt : k < (tagged (sownBatches P c sw seed)).length := by omega
  have hkσ : k < (P seed sw.locs.length).length := by omega
  refine ⟨(tagged (sownBatches P c sw seed))[k], List.getElem?_eq_getElem hkt, ?_, ?_⟩
  · simpa [hkt, hkσ] using congrArg (·[k]?) htag
  · simpa [partialStream_eq_tagged, hkt, hkσ] using hpos k hk

/-- **partial reap, slot by slot** (the property's own words): in the nested tuple returned by
`reap(allow_incomplete=True)`, the slot of the setting sown at stream position `k` — i.e. of location
`locs[σ[k]]` — holds `f` of that setting if its batch is finished and the placeholder otherwise; for every batching,
every shuffle permutation `σ`, every set `fin` of finished batches -/
theorem c09_partial_exact (P : Perms) (f : List Nat → β) (ph ph' : β) (fin : Nat → Bool) (c : Batch.Cfg)
    (sw : Sweep) (seed : Nat) (hseed : seed ≠ 0) (hperm : P seed sw.locs.length ~ List.range sw.locs.length)
    (hnd : sw.locs.Nodup) (k : Nat) (hk : k < sw.locs.length) (idx : List Nat)
    (hp : pick sw.coords idx = some (sw.locs.getD ((P seed sw.locs.length).getD k 0) [])) :
    ∃ r t, reorder P seed sw.locs.length (partialStream f ph fin (sownBatches P c sw seed)) = .ok r ∧
      (tagged (sownBatches P c sw seed))[k]? = some t ∧
      (processNested sw r ph').get idx = some (.leaf (if fin t.2 then f t.1 else ph)) := by
  obtain ⟨r, hr, hrlen, hpos⟩ := c09_partial_positions P f ph fin c sw seed hseed hperm
  obtain ⟨t, ht, hloc, hval⟩ := hpos k hk
  have hkσ : k < (P seed sw.locs.length).length := by rw [hperm.length_eq]; simpa using hk
  have hi : (P seed sw.locs.length).getD k 0 < sw.locs.length := by
    simpa [hkσ] using hperm.mem_iff.mp (List.getElem_mem hkσ)
  exact ⟨r, t, hr, ht, nested_of_linear sw r ph' hnd hrlen _ hi _ hval idx
    (by rw [hp, List.getD_eq_getElem?_getD, List.getElem?_eq_getElem hi]; rfl)⟩

/-! Non-vacuity: 5 settings, batches of 2, seed-3 permutation, batches {1, 3} finished -/
example : tagged [[[4], [0]], [[3], [1]], [[2]]] = [([4], 1), ([0], 1), ([3], 2), ([1], 2), ([2], 3)] := by decide

end Crop
