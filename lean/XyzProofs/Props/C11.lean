import XyzProofs.Lemmas.CropFS
/-!
# C11 — concurrent growers and a waiting reaper always agree, under every interleaving

Any number of growers (distinct batches or the same batch several times), one waiting reaper, one progress poller;
the schedule is an arbitrary list of process steps (so it also covers processes that stop for ever: crashes).
-/
namespace Conc
open List

/-- **the waiting reaper is safe under every interleaving**: whatever the number of growers, the batches they grow
(including the same batch several times) and the schedule — including schedules in which some processes never run again —
the reaper never fails on, and never uses, a partly written result; once it has read every batch it holds exactly the
true results in order (which C04 turns into "reap = direct run") -/
theorem c11_reaper_safe (nb : Nat) (payload : Nat → Payload) (batches : List Nat) (sched : List Act) :
    let s' := run (init .tmpRename nb payload batches) sched
    s'.reaper.failed = false ∧ (s'.reaper.next = nb → s'.reaper.acc = (List.range nb).map payload) := by
  have h := reachable_inv nb payload batches sched
  exact ⟨h.failed, fun e => by rw [h.acc, e]⟩

/-- **progress queries never count a partly written result**: every result file any process can see, at any instant of
any schedule, is complete — in particular everything a poller counted -/
theorem c11_poller_safe (nb : Nat) (payload : Nat → Payload) (batches : List Nat) (sched : List Act) :
    let s' := run (init .tmpRename nb payload batches) sched
    (∀ i d, s'.res i = some d → d = s'.payload i) ∧ (∀ c ∈ s'.counted, ∀ x ∈ c, x.2 = s'.payload x.1) := by
  intro s'
  have h := reachable_inv nb payload batches sched
  rw [show s'.payload = payload from h.payload_eq]
  exact ⟨h.res, h.counted⟩

/-- **the same batch grown twice at the same time** is an instance: two growers of batch 0 -/
theorem c11_same_batch_twice (payload : Nat → Payload) (sched : List Act) :
    (run (init .tmpRename 1 payload [0, 0]) sched).reaper.failed = false :=
  (c11_reaper_safe 1 payload [0, 0] sched).1

/-- **the old publication order is not safe**: create the final name, then write — a reaper that polls between the two
fails (this schedule was reproduced on the code before the `fix:` of `write_to_disk`) -/
theorem c11_direct_mode_counterexample :
    (run (init .direct 1 (fun _ => [7, 8]) [0]) [.grow 0, .reap]).reaper.failed = true := by decide

/-- …and a progress query at that instant counts the partly written file as finished -/
theorem c11_direct_mode_poller_counterexample :
    (run (init .direct 1 (fun _ => [7, 8]) [0]) [.grow 0, .grow 0, .poll]).counted = [[(0, [7])]] := by decide

/-- **the source implements the protocol the theorems are about**: `write_to_disk` (as extracted from the current
source) writes a fresh, hidden temporary and renames it into place -/
theorem c11_source_mode : sourceMode = .tmpRename := by decide

/-- `c11_reaper_safe` and `c11_poller_safe` for the mode the source implements -/
theorem c11_safe_source (nb : Nat) (payload : Nat → Payload) (batches : List Nat) (sched : List Act) :
    let s' := run (init sourceMode nb payload batches) sched
    s'.reaper.failed = false ∧ (s'.reaper.next = nb → s'.reaper.acc = (List.range nb).map payload) ∧
    (∀ i d, s'.res i = some d → d = s'.payload i) ∧ (∀ c ∈ s'.counted, ∀ x ∈ c, x.2 = s'.payload x.1) := by
  rw [c11_source_mode]
  exact ⟨(c11_reaper_safe nb payload batches sched).1, (c11_reaper_safe nb payload batches sched).2,
    c11_poller_safe nb payload batches sched⟩

end Conc
