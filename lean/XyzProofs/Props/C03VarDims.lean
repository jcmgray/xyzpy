import XyzModel.VarDims
import XyzProofs.Lemmas.PyDict
import XyzProofs.Lemmas.PyLoop
/-!
# C03 — every accepted spelling of `var_dims` means the same mapping

`parse_var_dims` (xyzpy/gen/prepare.py) turns what the user wrote into *output name ↦ tuple of dimensions*.  The
theorems give its meaning once and for all (`applyItems_spec`: each output gets the dimensions of the **last** entry
whose key covers it, the empty tuple if none does; an entry naming an unknown output is rejected) and derive that the
spellings the documentation lists are interchangeable: a dict in any key order, keys grouped into tuples, a list in
one-to-one correspondence with `var_names`, a bare string for a single dimension, `None`/empty for "no dimensions".
-/
namespace VarDims
open List

/-- does the key `k` (a name or a tuple of names) cover output `n`? -/
def covers (k : Atom) (n : String) : Bool :=
  match k with
  | .s x => n == x
  | .t l => l.contains n

def keyOk (names : List String) (k : Atom) : Bool :=
  match k with
  | .s x => names.contains x
  | .t l => l.all names.contains

/-- dimensions of the last entry covering `n`, `d` if there is none -/
def lastCoverD (items : List (Atom × List Atom)) (n : String) (d : List Atom) : List Atom :=
  items.foldl (fun acc kv => if covers kv.1 n then kv.2 else acc) d

theorem assign_eq (m : Mapping) (k : String) (v : List Atom) :
    assign m k v = m.map fun p => (p.1, if p.1 == k then v else p.2) := by
  unfold assign
  apply List.map_congr_left
  intro p _
  split <;> rfl

theorem applyKey_spec (names : List String) (m : Mapping) (k : Atom) (v : List Atom) :
    applyKey names m k v =
      if keyOk names k then .ok (m.map fun p => (p.1, if covers k p.1 then v else p.2)) else .error .value := by
  cases k with
  | s x => simp only [applyKey, keyOk, covers, assign_eq]; rfl
  | t subs =>
    simp only [applyKey, keyOk, covers]
    rw [PyLoop.foldl_checked _ names.contains (fun m sub => assign m sub v) .value (fun _ _ => rfl) (fun _ _ => rfl)]
    congr 2
    induction subs generalizing m with
    | nil => simp
    | cons sub rest ih =>
      rw [List.foldl_cons, ih, assign_eq, List.map_map]
      apply List.map_congr_left
      intro p _
      by_cases h : p.1 = sub <;> simp [h]

/-- **meaning of the update loop**, for every list of entries: all keys known ⇒ each output carries the dimensions of
the last entry covering it (what it had before if none does); any unknown name ⇒ ValueError -/
theorem applyItems_spec (names : List String) (m : Mapping) (items : List (Atom × List Atom)) :
    applyItems names m items =
      if items.all (fun kv => keyOk names kv.1) then .ok (m.map fun p => (p.1, lastCoverD items p.1 p.2))
      else .error .value := by
  unfold applyItems
  rw [PyLoop.foldl_checked _ (fun kv => keyOk names kv.1)
    (fun m kv => m.map fun p => (p.1, if covers kv.1 p.1 then kv.2 else p.2)) .value (fun _ _ => rfl)
    (fun m kv => applyKey_spec names m kv.1 kv.2)]
  congr 2
  induction items generalizing m with
  | nil => simp [lastCoverD]
  | cons kv rest ih =>
    rw [List.foldl_cons, ih, List.map_map]
    rfl

theorem dedup_of_nodup (l : List String) (h : l.Nodup) : dedup l = l := by
  induction l with
  | nil => rfl
  | cons x xs ih =>
    rw [List.nodup_cons] at h
    rw [dedup, ih h.2, List.filter_bne_eq_self_of_not_mem h.1]

/-- the dict spelling is the update loop on the default mapping (an empty dict is the loop over nothing) -/
theorem parse_dict_eq (names : List String) (items : List (Atom × Atom)) :
    parse (some names) (.dict items) =
      applyItems names ((dedup names).map fun k => (k, [])) (items.map fun p => (p.1, dimsOfAtom p.2)) := by
  cases items <;> rfl

/-- **dict spelling, in general**: every key must name outputs; each output gets the dimensions of the last entry
covering it, `()` if none does -/
theorem c03_vd_dict (names : List String) (items : List (Atom × Atom)) :
    parse (some names) (.dict items) =
      if items.all (fun kv => keyOk names kv.1) then
        .ok ((dedup names).map fun n => (n, lastCoverD (items.map fun p => (p.1, dimsOfAtom p.2)) n []))
      else .error .value := by
  rw [parse_dict_eq, applyItems_spec]
  simp only [List.all_map, List.map_map]
  rfl

/-- an entry naming an unknown output is rejected, wherever it stands -/
theorem c03_vd_unknown_rejected (names : List String) (items : List (Atom × Atom)) (kv : Atom × Atom)
    (hkv : kv ∈ items) (hbad : keyOk names kv.1 = false) : parse (some names) (.dict items) = .error .value := by
  rw [c03_vd_dict, if_neg]
  intro h
  have := List.all_eq_true.mp h kv hkv
  rw [hbad] at this
  cases this

theorem lastCoverD_single (ks : List String) (val : String → List Atom) (n : String) (d : List Atom) :
    lastCoverD (ks.map fun k => (Atom.s k, val k)) n d = if ks.contains n then val n else d := by
  unfold lastCoverD
  induction ks generalizing d with
  | nil => simp
  | cons k ks ih =>
    simp only [List.map_cons, List.foldl_cons]
    rw [ih]
    simp only [covers, List.contains_cons]
    by_cases hnk : n = k
    · subst hnk
      simp
    · simp [hnk]

theorem applyItems_single (names ks : List String) (hsub : ∀ k ∈ ks, k ∈ names) (val : String → List Atom) (m : Mapping) :
    applyItems names m (ks.map fun k => (Atom.s k, val k))
      = .ok (m.map fun p => (p.1, if ks.contains p.1 then val p.1 else p.2)) := by
  have hall : ((ks.map fun k => (Atom.s k, val k)).all fun kv => keyOk names kv.1) = true := by
    simp only [List.all_map, Function.comp, keyOk, List.all_eq_true]
    intro k hk
    simpa using hsub k hk
  simp only [applyItems_spec, hall, if_true, lastCoverD_single]

/-- **one entry per output, any order, any subset**: the result depends only on *which* outputs are mentioned -/
theorem c03_vd_single_keys (names ks : List String) (hsub : ∀ k ∈ ks, k ∈ names) (spell : String → Atom) :
    parse (some names) (.dict (ks.map fun k => (.s k, spell k))) =
      .ok ((dedup names).map fun n => (n, if ks.contains n then dimsOfAtom (spell n) else [])) := by
  rw [parse_dict_eq, List.map_map]
  exact (applyItems_single names ks hsub (fun k => dimsOfAtom (spell k)) _).trans (by rw [List.map_map]; rfl)

/-- **key order is irrelevant** (for one entry per output) -/
theorem c03_vd_order_irrelevant (names ks ks' : List String) (hsub : ∀ k ∈ ks, k ∈ names)
    (hsame : ∀ k, k ∈ ks ↔ k ∈ ks') (spell : String → Atom) :
    parse (some names) (.dict (ks.map fun k => (.s k, spell k))) =
    parse (some names) (.dict (ks'.map fun k => (.s k, spell k))) := by
  rw [c03_vd_single_keys names ks hsub, c03_vd_single_keys names ks' (fun k hk => hsub k ((hsame k).mpr hk))]
  congr 1
  apply List.map_congr_left
  intro n _
  have : ks.contains n = ks'.contains n := by simp [hsame n]
  rw [this]

theorem lastCoverD_append (a b : List (Atom × List Atom)) (n : String) (d : List Atom) :
    lastCoverD (a ++ b) n d = lastCoverD b n (lastCoverD a n d) := by
  simp [lastCoverD, List.foldl_append]

/-- **grouped keys**: an entry `(a, b, …): dims` means the same as the entries `a: dims, b: dims, …` in its place -/
theorem c03_vd_group (names : List String) (m : Mapping) (a b : List (Atom × List Atom)) (g : List String)
    (v : List Atom) :
    applyItems names m (a ++ [(Atom.t g, v)] ++ b) = applyItems names m (a ++ g.map (fun x => (Atom.s x, v)) ++ b) := by
  rw [applyItems_spec, applyItems_spec]
  have hall : ((a ++ [(Atom.t g, v)] ++ b).all fun kv => keyOk names kv.1) =
      ((a ++ g.map (fun x => (Atom.s x, v)) ++ b).all fun kv => keyOk names kv.1) := by
    simp only [List.all_append, List.all_cons, List.all_nil, Bool.and_true, List.all_map, keyOk]
    rfl
  rw [hall]
  have hmid : ∀ n d, lastCoverD [(Atom.t g, v)] n d = lastCoverD (g.map fun x => (Atom.s x, v)) n d := by
    intro n d
    rw [lastCoverD_single g (fun _ => v)]
    simp [lastCoverD, covers]
  simp only [lastCoverD_append, hmid]

/-- the same at the level of the dict spelling -/
theorem c03_vd_group_dict (names : List String) (a b : List (Atom × Atom)) (g : List String) (v : Atom) :
    parse (some names) (.dict (a ++ [(.t g, v)] ++ b)) =
    parse (some names) (.dict (a ++ g.map (fun x => (.s x, v)) ++ b)) := by
  rw [parse_dict_eq, parse_dict_eq]
  simp only [List.map_append, List.map_cons, List.map_nil, List.map_map]
  exact c03_vd_group names _ _ _ g (dimsOfAtom v)

/-- (`dictOf` is `Py.dictOfList` written out again in the model: the two are definitionally equal) -/
theorem dictOf_nodup (l : List (Atom × List Atom)) (h : (l.map (·.1)).Nodup) : dictOf l = l :=
  Gen.Py.dictOfList_of_nodup l h

theorem zip_eq_map_idxOf {γ : Type} (names : List String) (hnd : names.Nodup) (vals : List γ) (d : γ)
    (hlen : vals.length = names.length) :
    names.zip vals = names.map fun k => (k, vals.getD (names.idxOf k) d) := by
  apply List.ext_getElem
  · simp [hlen]
  · intro i h1 h2
    have hi : i < names.length := by simpa [hlen] using h1
    simp [hnd.idxOf_getElem i hi, List.getD_eq_getElem?_getD, hlen, hi]

/-- **list in one-to-one correspondence with `var_names`**: when the parser recognises it as such (some element is a
bare string, empty, or does not start with an output's name), output `i` gets element `i` -/
theorem c03_vd_corr (names : List String) (hnd : names.Nodup) (elems : List Elem)
    (hlen : elems.length = names.length) (hc : isCorrespondence names elems = true) :
    parse (some names) (.list elems) = .ok ((names.zip elems).map fun p => (p.1, dimsOfElem p.2)) := by
  cases elems with
  | nil =>
    have hn : names = [] := List.length_eq_zero_iff.mp (by simpa using hlen.symm)
    subst hn; rfl
  | cons e es =>
    simp only [parse, List.isEmpty_cons, Bool.false_eq_true, if_false, hc, if_true, hlen, bne_self_eq_false]
    -- element `i` belongs to name `i`: read the list as the dict `{name: dims of its element}`
    rw [zip_eq_map_idxOf names hnd (e :: es) e hlen]
    simp only [List.map_map, Function.comp_def]
    have hkeys : ((names.map fun k => (Atom.s k, dimsOfElem ((e :: es).getD (names.idxOf k) e))).map (·.1)).Nodup := by
      rw [List.map_map]
      exact List.Pairwise.map _ (fun a b h heq => h (by simpa using heq)) hnd
    rw [dictOf_nodup _ hkeys, applyItems_single names names (fun _ h => h), dedup_of_nodup names hnd, List.map_map]
    exact congrArg _ (List.map_congr_left fun n hn => by simp [hn])

/-- a bare string is the 1-tuple of itself -/
theorem c03_vd_bare_string (d : String) : dimsOfAtom (.s d) = dimsOfAtom (.t [d]) ∧ dimsOfElem (.s d) = dimsOfElem (.t [.s d]) :=
  ⟨rfl, rfl⟩

/-- the string spelling (single output, single dimension) is the dict `{name: (d,)}` -/
theorem c03_vd_str (k d : String) (hd : d.isEmpty = false) :
    parse (some [k]) (.str d) = .ok [(k, [.s d])] ∧ parse (some [k]) (.str d) = parse (some [k]) (.dict [(.s k, .t [d])]) := by
  -- both spellings run the update loop over the one entry `k: (d,)`
  have hstr : parse (some [k]) (.str d) = parse (some [k]) (.dict [(.s k, .t [d])]) := by
    simp [parse, hd, Gen.varDimsStrRefused, Gen.Default.varDimsStrRefused, dimsOfAtom]
  refine ⟨?_, hstr⟩
  rw [hstr, c03_vd_dict]
  simp [keyOk, dedup, lastCoverD, covers, dimsOfAtom]

/-- the string spelling is refused for several outputs -/
theorem c03_vd_str_needs_single (names : List String) (d : String) (hd : d.isEmpty = false) (h : names.length ≠ 1) :
    parse (some names) (.str d) = .error .value := by
  have : ((names.length : Int) ≠ 1) := by omega
  simp [parse, hd, Gen.varDimsStrRefused, Gen.Default.varDimsStrRefused, this]

/-- "no dimensions": `None`, `{}`, `()` / `[]` and `''` all give every output the empty tuple -/
theorem c03_vd_empty (names : List String) :
    parse (some names) .none = .ok ((dedup names).map fun k => (k, [])) ∧
    parse (some names) (.dict []) = parse (some names) .none ∧
    parse (some names) (.list []) = parse (some names) .none ∧
    parse (some names) (.str "") = parse (some names) .none := ⟨rfl, rfl, rfl, rfl⟩

/-- automatic output (`var_names=None`) takes no `var_dims` at all -/
theorem c03_vd_auto (sp : Spelling) : parse none sp = (match sp with | .none => .ok [] | _ => .error .value) := by
  cases sp <;> rfl

/-! Non-vacuity -/
example : parse (some ["x", "y", "z"]) (.dict [(.t ["x", "y"], .s "t"), (.s "z", .t ["u", "v"])]) =
    .ok [("x", [.s "t"]), ("y", [.s "t"]), ("z", [.s "u", .s "v"])] := by rfl
example : parse (some ["x", "y"]) (.list [.t [.s "x", .s "t"], .t [.s "y", .t ["u", "v"]]]) =
    .ok [("x", [.s "t"]), ("y", [.s "u", .s "v"])] := by rfl
example : isCorrespondence ["x", "y"] [.s "t", .t []] = true := by rfl
example : parse (some ["x", "y"]) (.list [.s "t", .t []]) = .ok [("x", [.s "t"]), ("y", [])] := by rfl
example : parse (some ["x"]) (.dict [(.s "q", .s "t")]) = .error .value := by rfl

end VarDims
