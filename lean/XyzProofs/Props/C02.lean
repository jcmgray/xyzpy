import XyzProofs.Lemmas.Core
import XyzModel.Value
/-!
# C02 — sparse cases run only what was asked and leave every other slot missing
-/
namespace Core
open List

variable {β : Type}

/-- **coordinates**: along each case argument the output grid spans exactly the values that occur in the cases,
each once, in sorted order -/
theorem c02_coords_union (s : Sweep) (rows : List (List Nat)) (hr : s.caseRows = some rows)
    (j : Nat) (hj : j < s.caseArgs.length) :
    ∃ c, s.caseCoords[j]? = some c ∧ (∀ y, y ∈ c ↔ ∃ r ∈ rows, r.getD j 0 = y) ∧ c.Pairwise (· < ·) := by
  refine ⟨Sweep.sortedSet (rows.map fun r => r.getD j 0), ?_, ?_, (sortedSet_spec _).2⟩
  · simp [Sweep.caseCoords, hr, hj]
  · intro y
    rw [(sortedSet_spec _).1 y]
    simp

/-- **only what was asked**: the call log is a permutation of `[case ++ combo | case ∈ cases, combo ∈ product]` -/
theorem c02_calls_exactly_requested (f : List Nat → β) (nl : β → β) (s : Sweep) (st : Strategy)
    (rows : List (List Nat)) (hr : s.caseRows = some rows)
    (hov : s.overlap = false) (hwf : st.WF s.locs.length) :
    ∃ r, core f nl s st = .ok r ∧
      r.log ~ rows.flatMap (fun cp => (product s.comboVals).map (cp ++ ·)) ∧
      r.flat = (rows.flatMap (fun cp => (product s.comboVals).map (cp ++ ·))).map f :=
  ⟨_, core_eq f nl s st hov hwf, locs_cases s rows hr ▸ runLinear_log f s.locs st hwf, by rw [← locs_cases s rows hr]⟩

/-- **own slot or placeholder**: at every index path of the output grid, the slot holds the function's value for
that location if the location was requested, and otherwise the placeholder made from the first result -/
theorem c02_slot [DecidableEq β] (f : List Nat → β) (nl : β → β) (s : Sweep) (st : Strategy)
    (rows : List (List Nat)) (hr : s.caseRows = some rows)
    (hov : s.overlap = false) (hwf : st.WF s.locs.length)
    (first : List Nat) (rest : List (List Nat)) (hne : s.locs = first :: rest)
    (idx : List Nat) (p : List Nat) (hp : pick s.coords idx = some p) :
    ∃ r, core f nl s st = .ok r ∧
      r.nested.get idx = some (.leaf (if p ∈ s.locs then f p else nl (f first))) := by
  refine ⟨_, core_eq f nl s st hov hwf, ?_⟩
  rw [processNested_get s f _ idx p hp, hne]
  rfl

/-- **overlap is rejected before anything runs** (no `Run`, hence no call log, is produced) -/
theorem c02_overlap_rejected (f : List Nat → β) (nl : β → β) (s : Sweep) (st : Strategy)
    (a : String) (h1 : a ∈ s.caseArgs) (h2 : a ∈ s.comboArgs) :
    core f nl s st = .error .overlap := by
  have : s.overlap = true := by
    simp only [Sweep.overlap, List.any_eq_true]
    exact ⟨a, h1, by simpa using h2⟩
  simp [core, this]

end Core

namespace Value

/-- **placeholder**: shaped like a real result, every leaf missing (`None` for plain bool/str, NaN otherwise) -/
theorem c02_placeholder_shape (v : Val) :
    shape (nanLike v) = shape v ∧ names (nanLike v) = names v ∧ ∀ l ∈ leaves (nanLike v), l.missing = true := by
  cases v with
  | scalar l => cases l <;> simp [nanLike, shape, names, leaves, Leaf.missing]
  | arr s l => simp [nanLike, shape, names, leaves, Leaf.missing]
  | tuple comps | ds vars =>
    refine ⟨by simp [nanLike, shape, Function.comp_def], by simp [nanLike, names, Function.comp_def], ?_⟩
    intro l hl
    simp only [nanLike, leaves, List.map_map, List.mem_map, Function.comp_def] at hl
    obtain ⟨_, _, rfl⟩ := hl
    rfl

theorem c02_placeholder_none_iff (l : Leaf) :
    nanLike (.scalar l) = .scalar .none ↔ (l = .bool ∨ l = .str) := by
  cases l <;> simp [nanLike]

end Value

/-! Non-vacuity -/
namespace Core
example : exCases.overlap = false ∧ exCases.locs = [[2, 0, 0], [2, 0, 1], [0, 1, 0], [0, 1, 1]] := by decide
example : exCases.coords = [[0, 2], [0, 1], [0, 1]] := by decide
example : pick exCases.coords [0, 0, 1] = some [0, 0, 1] ∧ [0, 0, 1] ∉ exCases.locs := by decide
end Core
