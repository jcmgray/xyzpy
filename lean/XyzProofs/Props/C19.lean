import XyzProofs.Lemmas.Stats
/-!
# C19 — running statistics equal the statistics of the whole sample

Exact arithmetic (`ℚ`); every list of samples, every chunking, every permutation, every sample stream and
every choice of `(rtol, tol_scale, min_samples, max_samples ≥ 1)`.  The update bodies and the loop guards that
the theorems rest on (`Gen.*`, read through the equations of `Lemmas/Stats.lean`) are regenerated from
`xyzpy/utils.py` on every run.  Floating point is *not* reasoned about here: the gap between the real floats and
these exact values is a run-time-checked tolerance (harness/props/c19.py).

Whole-sample quantities: `l.sum`, `sumSq l = Σx²`, `sumX/sumY/sumXY` of a list of pairs.
-/
namespace Stats
open List

/-- count and mean: `count = n`, `mean · n = Σx` -/
theorem c19_mean (l : List ℚ) :
    (run l).count = (l.length : ℤ) ∧ (run l).mean * (l.length : ℚ) = l.sum :=
  ⟨count_run l, mean_run l⟩

example : (run [1, 2, 6]).mean = 3 := by decide +kernel
example : (run [1, 2, 6]).count = 3 := by decide +kernel

/-- second moment: `M2 · n = n · Σx² − (Σx)²` -/
theorem c19_M2 (l : List ℚ) :
    (run l).M2 * (l.length : ℚ) = (l.length : ℚ) * sumSq l - l.sum ^ 2 := by
  rw [M2_run l]; ring

example : (run [1, 2, 6]).M2 = 14 := by decide +kernel

/-- hence variance, (squared) standard deviation and (squared) standard error are those of the whole sample:
`var = Σx²/n − (Σx/n)²`, `err² = var / n` (`std = var ** 0.5`, `err = std / n ** 0.5` in the code) -/
theorem c19_var (l : List ℚ) (hl : l ≠ []) :
    (run l).var = sumSq l / (l.length : ℚ) - (l.sum / (l.length : ℚ)) ^ 2 ∧
    (run l).errSq = (sumSq l / (l.length : ℚ) - (l.sum / (l.length : ℚ)) ^ 2) / (l.length : ℚ) := by
  have hv : (run l).var = sumSq l / (l.length : ℚ) - (l.sum / (l.length : ℚ)) ^ 2 := by
    rw [RS.var_eq, count_run_cast, div_count (cast_length_ne_zero hl) (M2_run l), sq]
  exact ⟨hv, by simp only [RS.errSq, hv, count_run_cast]⟩

example : (run [1, 2, 6]).var = 14 / 3 := by decide +kernel

/-- covariance: `count = n`, `xmean · n = Σx`, `ymean · n = Σy`, `C · n = n · Σxy − Σx · Σy` -/
theorem c19_cov (l : List (ℚ × ℚ)) :
    (runCov l).count = (l.length : ℤ) ∧
    (runCov l).xmean * (l.length : ℚ) = sumX l ∧ (runCov l).ymean * (l.length : ℚ) = sumY l ∧
    (runCov l).C * (l.length : ℚ) = (l.length : ℚ) * sumXY l - sumX l * sumY l :=
  ⟨(invC_run l).count, (invC_run l).xmean, (invC_run l).ymean, (invC_run l).c⟩

example : (runCov [(1, 2), (3, 6), (2, 4)]).C = 4 ∧ (runCov [(1, 2), (3, 6), (2, 4)]).xmean = 2 := by decide +kernel

/-- the reported covariance is the whole-sample covariance `Σxy/n − (Σx/n)(Σy/n)`; with Bessel's correction
`(n·Σxy − Σx·Σy) / (n·(n−1))` -/
theorem c19_covar (l : List (ℚ × ℚ)) (hl : l ≠ []) :
    (runCov l).covar = sumXY l / (l.length : ℚ) - (sumX l / (l.length : ℚ)) * (sumY l / (l.length : ℚ)) ∧
    (2 ≤ l.length → (runCov l).sampleCovar =
      ((l.length : ℚ) * sumXY l - sumX l * sumY l) / ((l.length : ℚ) * ((l.length : ℚ) - 1))) := by
  have hn := cast_length_ne_zero hl
  have h := (invC_run l).c
  constructor
  · rw [RC.covar_eq, count_runCov_cast]
    exact div_count hn h
  · intro h2
    have hn1 : (l.length : ℚ) - 1 ≠ 0 := by
      have : (2 : ℚ) ≤ (l.length : ℚ) := by exact_mod_cast h2
      intro h0; linarith
    rw [RC.sampleCovar_eq, count_runCov_cast]
    field_simp
    linarith

example : (runCov [(1, 2), (3, 6), (2, 4)]).covar = 4 / 3 := by decide +kernel
example : (runCov [(1, 2), (3, 6), (2, 4)]).sampleCovar = 2 := by decide +kernel

/-- covariance matrix: after any sequence of feeding steps (`update(*x)` row by row and/or
`update_from_it(*cols)`), entry `(i, j)` is the running covariance of the pairs that were fed for the stored
pair `key i j`, and the matrix is symmetric -/
theorem c19_cov_matrix (n : ℕ) (steps : List Step) (i j : ℕ) (hi : i < n) (hj : j < n) :
    (steps.foldl Mat.apply (Mat.init n)).get i j = runCov (steps.flatMap (stepPairs (key i j))) ∧
    (steps.foldl Mat.apply (Mat.init n)).covar i j = (steps.foldl Mat.apply (Mat.init n)).covar j i ∧
    (steps.foldl Mat.apply (Mat.init n)).sampleCovar i j = (steps.foldl Mat.apply (Mat.init n)).sampleCovar j i := by
  refine ⟨?_, ?_, ?_⟩
  · rw [init_tab, steps_tab, Mat.get, tab, List.lookup_graph _ (key_mem n i j hi hj)]
    rfl
  · simp only [Mat.covar, Mat.get, key_symm i j]
  · simp only [Mat.sampleCovar, Mat.get, key_symm i j]

example : (([Step.rows [[1, 2], [3, 6]], Step.cols [[2], [4]]].foldl Mat.apply (Mat.init 2)).covar 1 0) = 4 / 3 := by
  decide +kernel

/-- chunking: feeding the sample in any chunks (`update_from_it` per chunk; a one-element chunk is `update`)
gives the same final state as feeding the concatenation to a fresh object — for statistics and covariance -/
theorem c19_chunking (chunks : List (List ℚ)) (cchunks : List (List (ℚ × ℚ))) :
    chunks.foldl RS.updateFromIt RS.init = run chunks.flatten ∧
    cchunks.foldl RC.updateFromIt RC.init = runCov cchunks.flatten :=
  ⟨(List.foldl_flatten ..).symm, (List.foldl_flatten ..).symm⟩

example : [[1, 2], [], [6]].foldl RS.updateFromIt RS.init = run [1, 2, 6] := by decide +kernel

/-- permutation: the final state (count, mean, M2 — resp. count, xmean, ymean, C) does not depend on the
order in which the samples arrive -/
theorem c19_permutation :
    (∀ l₁ l₂ : List ℚ, l₁.Perm l₂ → run l₁ = run l₂) ∧
    (∀ l₁ l₂ : List (ℚ × ℚ), l₁.Perm l₂ → runCov l₁ = runCov l₂) := by
  have hcov : ∀ l₁ l₂ : List (ℚ × ℚ), l₁.Perm l₂ → runCov l₁ = runCov l₂ := fun l₁ l₂ h =>
    (invC_run l₁).unique (invC_run l₂) h.length_eq (h.map _).sum_eq (h.map _).sum_eq (h.map _).sum_eq
  refine ⟨fun l₁ l₂ h => ?_, hcov⟩
  -- on the diagonal
  have hd := hcov _ _ (h.map fun x => (x, x))
  rw [runCov_diag, runCov_diag, RC.mk.injEq] at hd
  exact RS.ext hd.1 hd.2.1 hd.2.2.2

example : run [6, 1, 2] = run [1, 2, 6] := by decide +kernel

/-- stopping rule of `estimate_from_repeats`, for `max_samples ≥ 1` (with `max_samples ≤ 0` the real loop still
draws one sample — a domain restriction, visible as the hypothesis `hmax`).  There is an iteration index `k` with:
* `k < max_samples`, so the number of samples drawn, `k + 1`, never exceeds `max_samples`;
* the returned statistics are exactly those of the first `k + 1` samples of the stream (`count = k + 1`);
* the rule allows stopping at `k`: (`k > min_samples` and the statistics of those samples have converged for
  `(rtol, tol_scale · rtol)`) or `k ≥ max_samples − 1`;
* at no earlier iteration did the rule allow stopping. -/
theorem c19_stop (f : ℕ → ℚ) (P : Params) (hmax : 1 ≤ P.maxSamples) :
    ∃ k : ℕ, (k : ℤ) < P.maxSamples ∧
      estimate f P = run (pre f (k + 1)) ∧ (estimate f P).count = (k : ℤ) + 1 ∧
      ((P.minSamples < (k : ℤ) ∧ (run (pre f (k + 1))).converged P.rtol (P.tolScale * P.rtol) = true)
          ∨ P.maxSamples - 1 ≤ (k : ℤ)) ∧
      ∀ j : ℕ, j < k →
        ¬ ((P.minSamples < (j : ℤ) ∧ (run (pre f (j + 1))).converged P.rtol (P.tolScale * P.rtol) = true)
            ∨ P.maxSamples - 1 ≤ (j : ℤ)) := by
  have hex := exists_stop f P hmax
  have hle := Nat.find_min' hex (stops_last f P hmax)
  have hest : estimate f P = run (pre f (Nat.find hex + 1)) := loop_eq_find f P hmax (by omega)
  refine ⟨Nat.find hex, by omega, hest, ?_, (stops_iff f P _).mp (Nat.find_spec hex),
    fun j hj hcon => Nat.find_min hex hj ((stops_iff f P j).mpr hcon)⟩
  rw [hest, count_run_pre, Nat.cast_succ]

/-- non-vacuity: a constant stream converges as soon as the rule looks (iteration `min_samples + 1`), and a
limit of 3 cuts a non-converging stream after exactly 3 samples -/
example : (estimate (fun _ => 1) ⟨1 / 50, 1, 5, 100⟩).count = 7 := by decide +kernel
example : (estimate (fun i => (i : ℚ) * (i : ℚ)) ⟨1 / 1000, 1, 0, 3⟩).count = 3 := by decide +kernel

end Stats
