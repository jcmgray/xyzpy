import XyzProofs.Lemmas.CropHistory
import XyzProofs.Props.C07
import XyzProofs.Props.C01
/-!
# C04 — sow, grow, reap returns exactly what running directly would have

`P seed n` is the permutation `random.shuffle` yields for `(seed, n)`; the only assumption on it is that it is a
permutation of `0..n-1`.  The direct run is `Core.core f nl sweep .seq` on the sweep the crop stores (combos in
name order).  Readiness of a fully grown crop is C08's (`c08_grow_missing` with `c08_ready_iff`); here it is a hypothesis.
-/
namespace Crop
open Core List

variable {β : Type}

/-- **batches cover the (shuffled) settings**: concatenating the batch files gives exactly the stream the Sower was fed,
which is a permutation of the direct run's settings -/
theorem c04_batches_cover (P : Perms) (c : Batch.Cfg) (sw : Sweep) (seed : Nat)
    (hperm : seed = 0 ∨ P seed sw.locs.length ~ List.range sw.locs.length) :
    (sownBatches P c sw seed).flatten = sowStream P sw seed ∧ sowStream P sw seed ~ sw.locs := by
  refine ⟨Batch.c07_partition c _, ?_⟩
  unfold sowStream seedStrategy
  by_cases h0 : seed = 0
  · simp [h0, runLinear]
  · simp only [h0, if_false, runLinear]
    exact applyPerm_perm _ _ _ (hperm.resolve_left h0)

/-- **the order sown is the order recorded**: the shuffle setting handed to the runner that drives the Sower (as the
two sow methods pass it in the source) is the setting saved in the crop's info file, for every way of making the call
(`shuffle` given, left at its default, or `None`; `sow_cases`). -/
theorem runnerShuffle_eq_recorded (o : Obj) (combos : Bool) (shArg : Option Nat) (bs nb : Option Nat) :
    runnerShuffle combos shArg (sowAttrs o combos shArg bs nb) = (sowAttrs o combos shArg bs nb).shuffle := by
  cases combos <;> cases shArg <;>
    simp [runnerShuffle, Gen.sowCombosRunnerShuffle, Gen.Default.sowCombosRunnerShuffle,
      Gen.sowCasesRunnerShuffle, Gen.Default.sowCasesRunnerShuffle]

/-- what `opSow` on a fresh directory leaves on disk -/
theorem opSow_fresh (P : Perms) (s s' : St β) (sw : Sweep) (combos : Bool) (shArg : Option Nat) (bs nb : Option Nat)
    (hfresh : s.dir = none) (h : opSow P s sw combos shArg bs nb = .ok s') :
    ∃ (c : Batch.Cfg) (info : Info) (d : Dir β),
      s'.dir = some d ∧ d.info = some info ∧ d.results = [] ∧
      info.bs = c.batchsize ∧ info.nb = c.numBatches ∧ info.rem = c.remainder ∧
      info.sweep = (if combos then sortByName sw else sw) ∧
      info.shuffle = (sowAttrs s.obj combos shArg bs nb).shuffle ∧
      Batch.chooseBatch info.sweep.locs.length (sowAttrs s.obj combos shArg bs nb).bs (sowAttrs s.obj combos shArg bs nb).nb
        (sowAttrs s.obj combos shArg bs nb).rem = .ok c ∧
      s'.obj.bs = some c.batchsize ∧ s'.obj.nb = some c.numBatches ∧ s'.obj.rem = some c.remainder ∧
      (∀ k, lookup d.batches k =
        if hk : 1 ≤ k ∧ k ≤ (sownBatches P c info.sweep info.shuffle).length
        then some ((sownBatches P c info.sweep info.shuffle)[k - 1]'(by omega)) else none) := by
  unfold opSow at h
  simp only [hfresh, Option.getD_none] at h
  split at h
  · cases h
  · rename_i c hc
    cases h
    refine ⟨c, _, _, rfl, rfl, rfl, rfl, rfl, rfl, rfl, rfl, hc, rfl, rfl, rfl, ?_⟩
    intro k
    simp only [sownBatches, runnerShuffle_eq_recorded]
    rw [lookup_foldl_insert_enum]
    split <;> rfl

/-- **growing is exact and local**: a successful grow of batch `i` writes `(batch i).map f` as result `i` and touches
nothing else -/
theorem c04_grow_correct (f : List Nat → β) (fails : List Nat → Bool) (d d' : Dir β) (i : Nat)
    (h : growOne f fails d i = .ok d') :
    ∃ b, lookup d.batches i = some b ∧ b ≠ [] ∧ b.any fails = false ∧
      lookup d'.results i = some (.good (b.map f)) ∧
      (∀ k, k ≠ i → lookup d'.results k = lookup d.results k) ∧ d'.batches = d.batches ∧ d'.info = d.info := by
  obtain ⟨b, hb, hne, hf, rfl⟩ := (growOne_ok_iff f fails d d' i).mp h
  exact ⟨b, hb, hne, hf, by simp [lookup_insert], fun k hk => by simp [lookup_insert, hk], rfl, rfl⟩

/-- the Reaper's stream over a fully and correctly grown crop is the function mapped over the concatenated batches -/
theorem c04_stream_full (f : List Nat → β) (o : Obj) (d : Dir β) (bsl : List (List (List Nat))) (dflt : Option β)
    (hne : ∀ b ∈ bsl, b ≠ [])
    (hr : ∀ j (hj : j < bsl.length), lookup d.results (j + 1) = some (.good (bsl[j].map f))) :
    reapStream o d bsl.length dflt = .ok (bsl.flatten.map f) := by
  have h := reapStream_of_parts o d dflt (bsl.map (·.map f)) fun j hj => by
    have hj' : j < bsl.length := by simpa using hj
    simp [reapFile, hr j hj', hne _ (List.getElem_mem hj')]
  simpa [List.map_flatten] using h

/-- the linear (enumeration-order) results of reaping a fully and correctly grown crop are `f` mapped over the
settings, for every batch configuration and every permutation the shuffle may be -/
theorem c04_reapLinear_full (P : Perms) (f : List Nat → β) (nl : β → β) (s : St β) (d : Dir β) (info : Info)
    (c : Batch.Cfg) (o : ReapOpts)
    (hd : s.dir = some d) (hinfo : d.info = some info)
    (hnb : info.nb = (sownBatches P c info.sweep info.shuffle).length)
    (hr : ∀ j (hj : j < (sownBatches P c info.sweep info.shuffle).length),
        lookup d.results (j + 1) = some (.good ((sownBatches P c info.sweep info.shuffle)[j].map f)))
    (hperm : info.shuffle = 0 ∨ P info.shuffle info.sweep.locs.length ~ List.range info.sweep.locs.length)
    (hai : o.allowIncomplete = false)
    (hgate : (readyGate s false o.wait).2 = true) :
    reapLinear P nl s o = .ok ((readyGate s false o.wait).1, info, info.sweep.locs.map f) := by
  have hstream := c04_stream_full f (readyGate s false o.wait).1.obj d _ none (Batch.c07_nonempty c _) hr
  rw [← hnb, Batch.c07_partition] at hstream
  unfold reapLinear
  simp only [hai, hgate, Bool.not_true, Bool.false_eq_true, if_false, readyGate_dir, hd, hinfo, ite_self, hstream,
    reorder_sowStream P f info.sweep info.shuffle hperm]

/-- **reap = direct run.**  A crop whose info file describes sweep `info.sweep` under shuffle seed `info.shuffle`, whose
result files hold `f` mapped over the batch files written by the Sower for that stream, reaps to exactly the nested
output of a direct sequential `combo_runner_core` on the same sweep — for every batch configuration and every
permutation the shuffle may be. -/
theorem c04_reap_eq_direct (P : Perms) (f : List Nat → β) (nl : β → β) (s : St β) (d : Dir β) (info : Info)
    (c : Batch.Cfg) (o : ReapOpts)
    (hd : s.dir = some d) (hinfo : d.info = some info)
    (hov : info.sweep.overlap = false)
    (hnb : info.nb = (sownBatches P c info.sweep info.shuffle).length)
    (hr : ∀ j (hj : j < (sownBatches P c info.sweep info.shuffle).length),
        lookup d.results (j + 1) = some (.good ((sownBatches P c info.sweep info.shuffle)[j].map f)))
    (hperm : info.shuffle = 0 ∨ P info.shuffle info.sweep.locs.length ~ List.range info.sweep.locs.length)
    (hai : o.allowIncomplete = false)
    (hne : info.sweep.locs ≠ [])
    (hgate : (readyGate s false o.wait).2 = true) :
    ∃ s' r, core f nl info.sweep .seq = .ok r ∧ reapRaw P nl s o = .ok (s', r.nested) ∧
      s'.dir = (if cleanUpResolved o.cleanUp false then none else some d) := by
  obtain ⟨r, hcore, _, hflat, hnested⟩ := core_ok f nl info.sweep .seq hov trivial
  have hlin := c04_reapLinear_full P f nl s d info c o hd hinfo hnb hr hperm hai hgate
  obtain ⟨l, rest, hl⟩ := List.exists_cons_of_ne_nil hne
  have hraw : reapRaw P nl s o = .ok
      (if cleanUpResolved o.cleanUp o.allowIncomplete then { (readyGate s false o.wait).1 with dir := none }
        else (readyGate s false o.wait).1, r.nested) := by
    unfold reapRaw
    rw [hlin, hnested]
    simp only [hl, List.map_cons]
  refine ⟨_, r, hcore, hraw, ?_⟩
  rw [hai]
  split
  · rfl
  · rw [readyGate_dir, hd]

/-- **any history of grows**: after any sequence of grow / reload / query operations on a sown crop, every batch that
was named in some grow holds the exact image of its batch file, and nothing else about the crop changed -/
theorem c04_grow_history (f : List Nat → β) (info : Info) (bsl : List (List (List Nat)))
    (hne : ∀ b ∈ bsl, b ≠ []) (ops : List HOp) (s : St β) (d : Dir β)
    (hd : s.dir = some d) (hg : Good f d info bsl)
    (hids : ∀ i ∈ grownIds ops, 1 ≤ i ∧ i ≤ bsl.length) :
    ∃ d', (ops.foldl (hstep f) s).dir = some d' ∧ Good f d' info bsl ∧
      (∀ i ∈ grownIds ops, ∀ (h : i - 1 < bsl.length), lookup d'.results i = some (.good (bsl[i - 1].map f))) ∧
      (∀ j (hj : j < bsl.length) r, lookup d.results (j + 1) = some r → lookup d'.results (j + 1) = some r) := by
  obtain ⟨d', e1, e2, e3, e4⟩ := history_spec f bsl hne ops s d hd hg.hb hids
  refine ⟨d', e1, hg.of_spec e2 e3 e4, fun i hi h => by simp [e4, hi, h], fun j hj r hr => ?_⟩
  rw [e4]
  split
  · simp [hj, hg.hr j hj r hr]
  · exact hr


/-- **sow, grow by any history that covers every batch, reap = direct run** (for every batch configuration, every
shuffle seed, every order / grouping / repetition of grows, with reloads and queries anywhere). -/
theorem c04_history_reap_eq_direct (P : Perms) (f : List Nat → β) (nl : β → β) (info : Info) (c : Batch.Cfg)
    (ops : List HOp) (s : St β) (d : Dir β) (o : ReapOpts)
    (hd : s.dir = some d) (hg : Good f d info (sownBatches P c info.sweep info.shuffle))
    (hnb : info.nb = (sownBatches P c info.sweep info.shuffle).length)
    (hov : info.sweep.overlap = false) (hne : info.sweep.locs ≠ [])
    (hperm : info.shuffle = 0 ∨ P info.shuffle info.sweep.locs.length ~ List.range info.sweep.locs.length)
    (hids : ∀ i ∈ grownIds ops, 1 ≤ i ∧ i ≤ info.nb)
    (hcover : ∀ i, 1 ≤ i → i ≤ info.nb → i ∈ grownIds ops)
    (hai : o.allowIncomplete = false)
    (hgate : (readyGate (ops.foldl (hstep f) s) false o.wait).2 = true) :
    ∃ s' r, core f nl info.sweep .seq = .ok r ∧ reapRaw P nl (ops.foldl (hstep f) s) o = .ok (s', r.nested) := by
  obtain ⟨d', e1, e2, e3, _⟩ := c04_grow_history f info _ (Batch.c07_nonempty c _) ops s d hd hg
    (fun i hi => by rw [← hnb]; exact hids i hi)
  have hr : ∀ j (hj : j < (sownBatches P c info.sweep info.shuffle).length),
      lookup d'.results (j + 1) = some (.good ((sownBatches P c info.sweep info.shuffle)[j].map f)) := by
    intro j hj
    simpa using e3 (j + 1) (hcover (j + 1) (by omega) (by omega)) (by simpa using hj)
  obtain ⟨s', r, h1, h2, _⟩ := c04_reap_eq_direct P f nl _ d' info c o e1 e2.hinfo hov hnb hr hperm hai hne hgate
  exact ⟨s', r, h1, h2⟩

/-- **reload is irrelevant**: re-creating the Crop object from name and directory changes nothing on disk (so every
later grow and reap sees the same files) -/
theorem c04_reload_irrelevant (s : St β) : (opNew s none none 0).dir = s.dir := opNew_dir s none none 0

/-! Non-vacuity: 6 settings in 4 batches under a shuffle, and a history (grows of `[3,1]`, a reload, `[4,2,1]`) that meets the
cover condition `hcover` of `c04_history_reap_eq_direct`; the other hypotheses are not exhibited here. -/
def exP : Perms := fun _ _ => [4, 0, 3, 1, 5, 2]
def exSw : Sweep := { comboArgs := ["a", "b"], comboVals := [[0, 1], [0, 1, 2]] }
example : sownBatches exP ⟨1, 4, 2⟩ exSw 3 = [[[1, 1], [0, 0]], [[1, 0], [0, 1]], [[1, 2]], [[0, 2]]] := by decide
example : ∀ i, 1 ≤ i → i ≤ 4 → i ∈ grownIds [.grow [3, 1], .reload, .grow [4, 2, 1]] := by
  intro i h1 h2
  have : i = 1 ∨ i = 2 ∨ i = 3 ∨ i = 4 := by omega
  rcases this with rfl | rfl | rfl | rfl <;> decide

end Crop
