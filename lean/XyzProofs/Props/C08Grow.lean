import XyzProofs.Lemmas.GrowSk
import XyzProofs.Lemmas.Crop
/-! C08 on the translated control flow of `grow` (`Gen.growSk`). -/
namespace GrowSk
open Gen Lc

/-- the MPI rank `grow` works out from its environment -/
def rankOf (checkMpi ompiSet : Bool) (ompiRank : Int) (pmiSet : Bool) (pmiRank : Int) : Int :=
  if checkMpi && ompiSet then ompiRank else if checkMpi && pmiSet then pmiRank else 0

/-- the reads a grow starts with, function file first -/
def plan1 (fnIsNone : Bool) : List GEff := (if fnIsNone then [GEff.readFn] else []) ++ [GEff.readBatch]

/-- the same two reads in the other order -/
def plan1' (fnIsNone : Bool) : List GEff := [GEff.readBatch] ++ (if fnIsNone then [GEff.readFn] else [])

/-- the reads a grow starts with: the function file (when needed) and the batch file, in either order -/
def Plan1 (fnIsNone : Bool) (p : List GEff) : Prop := p = plan1 fnIsNone ∨ p = plan1' fnIsNone

/-- the evaluation of the `n` cases: one after the other, or (with `num_workers`) the pool, every submission, then every
collection -/
def evals (n : Nat) : Option Int → List GEff
  | none => (List.range n).map GEff.eval
  | some _ => GEff.executor :: ((List.range n).map GEff.submit ++ (List.range n).map GEff.collect)

/-- what follows the reads: the evaluations and, on rank 0, the write of the result file -/
def plan2 (n : Nat) (nw : Option Int) (rank : Int) : List GEff :=
  evals n nw ++ (if rank = 0 then [GEff.writeResult] else [])

/-- `grow` by hand: `XYZError` outside a crop folder; the reads `p1`; `ValueError` on an empty batch; then `plan2` -/
def growSpec (fails : GEff → Bool) (cropIsNone cwdNotCrop : Bool) (p1 : List GEff) (n : Nat) (nw : Option Int) (rank : Int)
    (t0 : List GEff) : Out GEff :=
  if cropIsNone && cwdNotCrop then (t0, some .xyzError) else
  skBindG (runPlan fails p1 t0) fun t =>
  if n = 0 then (t, some .valueError) else runPlan fails (plan2 n nw rank) t

theorem runPlan_single_fun {ε : Type} (fails : ε → Bool) (e : ε) :
    runPlan fails [e] = fun t => if fails e then (t ++ [e], some .other) else (t ++ [e], none) := by
  funext t; rfl

theorem runPlan_nil_fun {ε : Type} (fails : ε → Bool) : runPlan fails [] = fun t => (t, none) := by
  funext t; rfl

/-- `growSpec` in a form that computes once the options are fixed (the loops stay `skLoop`s): what `growSk_eq_spec`
compares the translated body with -/
theorem growSpec_eq (fails : GEff → Bool) (cN cw : Bool) (p1 : List GEff) (n : Nat) (nw : Option Int) (rank : Int)
    (t0 : List GEff) :
    growSpec fails cN cw p1 n nw rank t0 =
      if cN && cw then (t0, some .xyzError) else
      attemptThen fails (fun t => (t, some .other)) (fun t =>
        if n = 0 then (t, some .valueError) else
        if nw.isNone then skBindG (skLoop fails GEff.eval n t) (attempt fails (if rank = 0 then [.writeResult] else []))
        else attemptThen fails (fun t => (t, some .other)) (fun t =>
            skBindG (skLoop fails GEff.submit n t) fun t =>
              skBindG (skLoop fails GEff.collect n t) (attempt fails (if rank = 0 then [.writeResult] else [])))
            [.executor] t)
        p1 t0 := by
  unfold growSpec plan2
  rw [runPlan_eq_attempt, skBindG_attempt]
  cases nw <;>
    simp only [evals, skLoop_eq, attempt_append_fun, skBindG_assoc, attemptThen, attempt, List.cons_append,
      Option.isNone_none, Option.isNone_some, if_true, Bool.false_eq_true, if_false]

/-- **the translated `grow` is this plan**: after the folder check, the two reads (in either order), the empty-batch
check, then every evaluation (or: the pool, every submission, every collection) and — on rank 0 — the write -/
theorem growSk_eq_spec (fails : GEff → Bool) (cropIsNone cwdNotCrop fnIsNone : Bool) (n : Nat) (nw : Option Int)
    (checkMpi ompiSet : Bool) (ompiRank : Int) (pmiSet : Bool) (pmiRank : Int) (t0 : List GEff) :
    ∃ p1, Plan1 fnIsNone p1 ∧
    Gen.growSk fails cropIsNone cwdNotCrop fnIsNone n nw checkMpi ompiSet ompiRank pmiSet pmiRank t0
      = growSpec fails cropIsNone cwdNotCrop p1 n nw (rankOf checkMpi ompiSet ompiRank pmiSet pmiRank) t0 := by
  -- the reads in the order the translated body makes them: read off a run in which nothing fails and the batch is empty
  refine ⟨(Gen.growSk (fun _ => false) false false fnIsNone 0 none false false 0 false 0 []).1,
    by unfold Plan1; cases fnIsNone <;> decide, ?_⟩
  rw [growSpec_eq]
  -- With the options fixed both sides compute to the same chain of `if fails e` around the same loops: `rfl`.  The batch
  -- is split into empty or not, a rank read from the environment into 0, positive, negative, so that the tests on them
  -- compute however the source spells them.
  rcases n with _ | m <;> cases cropIsNone <;> cases cwdNotCrop <;> cases fnIsNone <;> cases nw <;>
    (cases checkMpi
     · rfl
     cases ompiSet
     · cases pmiSet
       · rfl
       · rcases pmiRank with (_ | _) | _ <;> rfl
     · rcases ompiRank with (_ | _) | _ <;> rfl)

theorem w_not_plan1 (fN : Bool) (p1 : List GEff) (h : Plan1 fN p1) : GEff.writeResult ∉ p1 := by
  rcases h with rfl | rfl <;> cases fN <;> simp [plan1, plan1']
theorem plan1_mem (fN : Bool) (p1 : List GEff) (h : Plan1 fN p1) (e : GEff) : e ∈ p1 ↔ e ∈ plan1 fN := by
  rcases h with rfl | rfl <;> cases fN <;> simp [plan1, plan1', or_comm]

theorem plan1_all (fails : GEff → Bool) (fN : Bool) (p1 : List GEff) (h : Plan1 fN p1) :
    (∀ e ∈ p1, fails e = false) ↔ (∀ e ∈ plan1 fN, fails e = false) :=
  ⟨fun hh e he => hh e ((plan1_mem fN p1 h e).mpr he), fun hh e he => hh e ((plan1_mem fN p1 h e).mp he)⟩

theorem w_not_evals (n : Nat) (nw : Option Int) : GEff.writeResult ∉ evals n nw := by
  cases nw <;> simp [evals]

theorem wo_not_plan1 (fN : Bool) (p1 : List GEff) (h : Plan1 fN p1) : GEff.writeOther ∉ p1 := by
  rcases h with rfl | rfl <;> cases fN <;> simp [plan1, plan1']

theorem wo_not_evals (n : Nat) (nw : Option Int) : GEff.writeOther ∉ evals n nw := by
  cases nw <;> simp [evals]

/-- how a grow that is not in a crop folder, or whose batch is empty, ends: it raised, and attempted reads only -/
def Early (p1 : List GEff) (out : Out GEff) : Prop :=
  out.2 ≠ none ∧ ∀ x ∈ out.1, x ∈ p1

/-- the two ways a grow can go: it ends early (`Early`), or it is ONE attempt of the reads, the evaluations and — on
rank 0 — the write, in this order -/
theorem growSk_cases (fails : GEff → Bool) (cN cw fN : Bool) (n : Nat) (nw : Option Int)
    (cm os : Bool) (orank : Int) (ps : Bool) (prank : Int) :
    ∃ p1, Plan1 fN p1 ∧
      ((((cN && cw) = true ∨ n = 0) ∧ Early p1 (Gen.growSk fails cN cw fN n nw cm os orank ps prank [])) ∨
       ((cN && cw) = false ∧ n ≠ 0 ∧
         Gen.growSk fails cN cw fN n nw cm os orank ps prank [] =
           attempt fails (p1 ++ evals n nw ++ if rankOf cm os orank ps prank = 0 then [GEff.writeResult] else []) [])) := by
  obtain ⟨p1, hp1, heq⟩ := growSk_eq_spec fails cN cw fN n nw cm os orank ps prank []
  refine ⟨p1, hp1, ?_⟩
  rw [heq]
  unfold growSpec plan2
  rw [runPlan_eq_attempt]
  cases hc : (cN && cw)
  · by_cases hn : n = 0
    · refine Or.inl ⟨Or.inr hn, ?_⟩
      simp only [Bool.false_eq_true, if_false, hn, if_true]
      -- whether or not the reads went through, the grow raises, and its trace is theirs
      have hmem := attempt_mem fails p1 []
      generalize attempt fails p1 [] = r at hmem ⊢
      rcases r with ⟨t, _ | err⟩ <;> exact ⟨by simp, fun x hx => (hmem x hx).resolve_left (by simp)⟩
    · refine Or.inr ⟨rfl, hn, ?_⟩
      rw [List.append_assoc, attempt_append]
      simp only [Bool.false_eq_true, if_false, hn]
  · exact Or.inl ⟨Or.inl rfl, by simp [Early]⟩

section theorems
variable (fails : GEff → Bool) (cN cw fN : Bool) (n : Nat) (nw : Option Int)
  (cm os : Bool) (orank : Int) (ps : Bool) (prank : Int)

theorem w_not_reads_evals (p1 : List GEff) (h : Plan1 fN p1) : GEff.writeResult ∉ p1 ++ evals n nw := by
  simp [w_not_plan1 fN p1 h, w_not_evals n nw]

/-- **the result is written last**: if the write is attempted at all it is the last effect of the grow, it happens once,
and every effect before it (reads, every evaluation) went through -/
theorem c08_grow_write_last
    (h : GEff.writeResult ∈ (Gen.growSk fails cN cw fN n nw cm os orank ps prank []).1) :
    ∃ pre, (Gen.growSk fails cN cw fN n nw cm os orank ps prank []).1 = pre ++ [GEff.writeResult] ∧
      GEff.writeResult ∉ pre ∧ (∀ e ∈ pre, fails e = false) ∧ ∃ p1, Plan1 fN p1 ∧ pre = p1 ++ evals n nw := by
  obtain ⟨p1, hp1, ⟨_, _, hE⟩ | ⟨_, _, hG⟩⟩ := growSk_cases fails cN cw fN n nw cm os orank ps prank
  · exact absurd (hE _ h) (w_not_plan1 fN p1 hp1)
  · have hw := w_not_reads_evals fN n nw p1 hp1
    rw [hG] at h ⊢
    by_cases hr : rankOf cm os orank ps prank = 0
    · simp only [hr, if_true] at h ⊢
      have ht : GEff.writeResult ∉ ([] : List GEff) := by simp
      exact ⟨p1 ++ evals n nw, by simpa using attempt_last_trace hw ht h, hw, (attempt_last_mem_iff hw ht).mp h, p1, hp1,
        rfl⟩
    · simp only [hr, if_false, List.append_nil] at h
      exact absurd ((attempt_mem fails _ _ _ h).resolve_left (by simp)) hw

/-- **when the write is attempted**: exactly when `grow` was started in / given a crop, the function file (if needed)
and the batch file were read, the batch is not empty, the pool (if any) was there, every case was submitted /
evaluated / collected without raising, and this process is rank 0 -/
theorem c08_grow_writes_iff :
    GEff.writeResult ∈ (Gen.growSk fails cN cw fN n nw cm os orank ps prank []).1 ↔
      ((cN && cw) = false ∧ (∀ e ∈ plan1 fN, fails e = false) ∧ n ≠ 0 ∧ (∀ e ∈ evals n nw, fails e = false) ∧
        rankOf cm os orank ps prank = 0) := by
  obtain ⟨p1, hp1, ⟨hc, _, hE⟩ | ⟨hc, hn, hG⟩⟩ := growSk_cases fails cN cw fN n nw cm os orank ps prank
  · refine ⟨fun h => absurd (hE _ h) (w_not_plan1 fN p1 hp1), fun h => ?_⟩
    rcases hc with hc | hc
    · rw [h.1] at hc; cases hc
    · obtain ⟨_, _, hn, _⟩ := h
      exact absurd hc hn
  · have hw := w_not_reads_evals fN n nw p1 hp1
    rw [hG, ← plan1_all fails fN p1 hp1]
    by_cases hr : rankOf cm os orank ps prank = 0
    · simp only [hr, if_true]
      rw [attempt_last_mem_iff hw (by simp)]
      simp [or_imp, forall_and, hc, hn]
    · simp only [hr, if_false, List.append_nil, and_false, iff_false]
      exact fun h => absurd ((attempt_mem fails _ _ _ h).resolve_left (by simp)) hw

/-- **a grow that raised wrote nothing** — unless the write itself is what raised (and `write_to_disk` publishes by
rename, C10: a failed write leaves no result file) -/
theorem c08_grow_error_no_write
    (h : (Gen.growSk fails cN cw fN n nw cm os orank ps prank []).2 ≠ none) :
    GEff.writeResult ∉ (Gen.growSk fails cN cw fN n nw cm os orank ps prank []).1 ∨ fails GEff.writeResult = true := by
  obtain ⟨p1, hp1, ⟨_, _, hE⟩ | ⟨_, _, hG⟩⟩ := growSk_cases fails cN cw fN n nw cm os orank ps prank
  · exact Or.inl fun hm => absurd (hE _ hm) (w_not_plan1 fN p1 hp1)
  · have hw := w_not_reads_evals fN n nw p1 hp1
    rw [hG] at h ⊢
    by_cases hr : rankOf cm os orank ps prank = 0
    · simp only [hr, if_true] at h ⊢
      by_cases hm : GEff.writeResult ∈ (attempt fails (p1 ++ evals n nw ++ [GEff.writeResult]) []).1
      · exact Or.inr (attempt_last_raised hw (by simp) h hm)
      · exact Or.inl hm
    · simp only [hr, if_false, List.append_nil]
      exact Or.inl fun hm => absurd ((attempt_mem fails _ _ _ hm).resolve_left (by simp)) hw

/-- **C08 on the translated `grow`: a batch counts as finished iff a grow of it completed successfully.**  For the
rank-0 process, `grow` returns normally exactly when the result file was written (attempted and not failed); so the
result file of batch `i` appears iff some `grow(i)` ran to completion -/
theorem c08_finished_iff_grow_completed (hr : rankOf cm os orank ps prank = 0) :
    (Gen.growSk fails cN cw fN n nw cm os orank ps prank []).2 = none ↔
      (GEff.writeResult ∈ (Gen.growSk fails cN cw fN n nw cm os orank ps prank []).1 ∧ fails GEff.writeResult = false) := by
  obtain ⟨p1, hp1, ⟨_, hne, hE⟩ | ⟨_, _, hG⟩⟩ := growSk_cases fails cN cw fN n nw cm os orank ps prank
  · exact ⟨fun h => absurd h hne, fun h => absurd (hE _ h.1) (w_not_plan1 fN p1 hp1)⟩
  · rw [hG]
    simp only [hr, if_true]
    have hw := w_not_reads_evals fN n nw p1 hp1
    rw [attempt_last_ok_iff hw (by simp), attempt_last_mem_iff hw (by simp)]

/-- **exactly one write per successful grow**, never more than one, never to another file; a process that is not
rank 0 writes nothing -/
theorem c08_grow_one_write :
    (Gen.growSk fails cN cw fN n nw cm os orank ps prank []).1.count GEff.writeResult ≤ 1 ∧
    GEff.writeOther ∉ (Gen.growSk fails cN cw fN n nw cm os orank ps prank []).1 ∧
    ((Gen.growSk fails cN cw fN n nw cm os orank ps prank []).2 = none → rankOf cm os orank ps prank = 0 →
      (Gen.growSk fails cN cw fN n nw cm os orank ps prank []).1.count GEff.writeResult = 1) ∧
    (rankOf cm os orank ps prank ≠ 0 → GEff.writeResult ∉ (Gen.growSk fails cN cw fN n nw cm os orank ps prank []).1) := by
  have hcount : GEff.writeResult ∈ (Gen.growSk fails cN cw fN n nw cm os orank ps prank []).1 →
      (Gen.growSk fails cN cw fN n nw cm os orank ps prank []).1.count GEff.writeResult = 1 := by
    intro hw
    obtain ⟨pre, h1, h2, _, _⟩ := c08_grow_write_last fails cN cw fN n nw cm os orank ps prank hw
    rw [h1, List.count_append, List.count_eq_zero_of_not_mem h2]
    simp
  refine ⟨?_, ?_, ?_, ?_⟩
  · by_cases hw : GEff.writeResult ∈ (Gen.growSk fails cN cw fN n nw cm os orank ps prank []).1
    · rw [hcount hw]; exact Nat.le_refl 1
    · rw [List.count_eq_zero_of_not_mem hw]; exact Nat.zero_le 1
  · obtain ⟨p1, hp1, ⟨_, _, hE⟩ | ⟨_, _, hG⟩⟩ := growSk_cases fails cN cw fN n nw cm os orank ps prank
    · exact fun h => absurd (hE _ h) (wo_not_plan1 fN p1 hp1)
    · rw [hG]
      intro h
      have := (attempt_mem fails _ _ _ h).resolve_left (by simp)
      simp only [List.mem_append] at this
      rcases this with (h | h) | h
      · exact wo_not_plan1 fN p1 hp1 h
      · exact wo_not_evals n nw h
      · split at h <;> simp at h
  · intro hok hr
    exact hcount ((c08_finished_iff_grow_completed fails cN cw fN n nw cm os orank ps prank hr).mp hok).1
  · intro hr hw
    obtain ⟨_, _, _, _, hr0⟩ := (c08_grow_writes_iff fails cN cw fN n nw cm os orank ps prank).mp hw
    exact hr hr0

end theorems

/-- which effects of a sequential in-process grow of batch `i` raise, on the model's directory `d` when the swept
function raises on the settings `fl`: the batch file cannot be read iff it is not there; evaluation `k` raises iff
the function raises on the batch's `k`-th setting; reading a handed-in function and the write itself do not raise -/
def growFails {β : Type} (d : Crop.Dir β) (i : Nat) (fl : List Nat → Bool) : GEff → Bool
  | .readBatch => (Crop.lookup d.batches i).isNone
  | .eval k => match Crop.lookup d.batches i with
    | some b => (b[k]?.map fl).getD false
    | none => false
  | _ => false

theorem any_false_iff_getElem {α : Type} (b : List α) (fl : α → Bool) :
    b.any fl = false ↔ ∀ k, k < b.length → (b[k]?.map fl).getD false = false := by
  rw [List.any_eq_false, List.forall_mem_iff_forall_getElem]
  refine forall_congr' fun k => forall_congr' fun hk => ?_
  simp [List.getElem?_eq_getElem hk]

/-- **refinement**: the model's `growOne` succeeds (and then inserts the result of batch `i`, `c08_grow_inv`) exactly
when the translated `grow` — in-process, sequential, rank 0, with or without a handed-in function — returns normally,
which is exactly when it attempts the write of the result file -/
theorem growOne_refines {β : Type} (f : List Nat → β) (fl : List Nat → Bool) (d : Crop.Dir β) (i : Nat) (fN : Bool)
    (cm : Bool) :
    ((∃ d', Crop.growOne f fl d i = .ok d') ↔
      (Gen.growSk (growFails d i fl) false false fN ((Crop.lookup d.batches i).getD []).length none cm false 0 false 0 []).2 = none) ∧
    ((∃ d', Crop.growOne f fl d i = .ok d') ↔
      GEff.writeResult ∈ (Gen.growSk (growFails d i fl) false false fN ((Crop.lookup d.batches i).getD []).length none cm false 0 false 0 []).1) := by
  have hr : rankOf cm false 0 false 0 = 0 := by simp [rankOf]
  have hW : growFails d i fl GEff.writeResult = false := rfl
  -- of the skeleton both halves say the same: the write is attempted (it does not fail)
  rw [c08_finished_iff_grow_completed (hr := hr), c08_grow_writes_iff]
  simp only [hW, and_true, and_self, hr, Bool.and_self, true_and]
  -- the model: the batch file is there, not empty, and the function raises on none of its settings
  have hm : (∃ d', Crop.growOne f fl d i = .ok d') ↔
      ∃ b, Crop.lookup d.batches i = some b ∧ b ≠ [] ∧ b.any fl = false := by
    simp only [Crop.growOne_ok_iff]
    exact ⟨fun ⟨_, b, h1, h2, h3, _⟩ => ⟨b, h1, h2, h3⟩, fun ⟨b, h1, h2, h3⟩ => ⟨_, b, h1, h2, h3, rfl⟩⟩
  rw [hm]
  cases hb : Crop.lookup d.batches i with
  | none =>
    -- no batch file: the model refuses, and the skeleton's read of it raises
    have hread : growFails d i fl GEff.readBatch = true := by simp [growFails, hb]
    constructor
    · rintro ⟨b, h, _⟩
      cases h
    · intro h
      have := h.1 GEff.readBatch (by simp [plan1])
      rw [hread] at this
      cases this
  | some b =>
    -- the reads do not raise; evaluation `k` raises iff the function raises on the batch's `k`-th setting
    have h1 : ∀ e ∈ plan1 fN, growFails d i fl e = false := by
      intro e he
      cases fN <;> simp [plan1] at he
      · subst he; simp [growFails, hb]
      · rcases he with rfl | rfl <;> simp [growFails, hb]
    have h2 : (∀ e ∈ evals b.length none, growFails d i fl e = false) ↔ b.any fl = false := by
      rw [any_false_iff_getElem]
      simp only [evals, List.forall_mem_map, List.mem_range, growFails, hb]
    constructor
    · rintro ⟨b', hb', hne, hany⟩
      cases hb'
      exact ⟨h1, by simpa using hne, h2.mpr hany⟩
    · rintro ⟨_, hne, hev⟩
      exact ⟨b, rfl, by simpa using hne, h2.mp hev⟩

/-! Non-vacuity: a sequential grow of three cases in which everything goes through; one in which case 1 raises; a
pool grow; a rank-1 MPI process -/
example : Gen.growSk (fun _ => false) false false false 3 none true false 0 false 0 [] =
    ([.readBatch, .eval 0, .eval 1, .eval 2, .writeResult], none) := by
  decide
example : GEff.readFn ∈ (Gen.growSk (fun _ => false) false false true 1 none true false 0 false 0 []).1 ∧
    (Gen.growSk (fun e => e == .readFn) false false true 1 none true false 0 false 0 []).2 = some .other := by
  decide
example : Gen.growSk (fun e => e == .eval 1) false false false 3 none true false 0 false 0 [] =
    ([.readBatch, .eval 0, .eval 1], some .other) := by
  decide
example : Gen.growSk (fun _ => false) false false false 2 (some 4) true false 0 false 0 [] =
    ([.readBatch, .executor, .submit 0, .submit 1, .collect 0, .collect 1, .writeResult], none) := by
  decide
example : Gen.growSk (fun _ => false) false false false 1 none true true 1 false 0 [] =
    ([.readBatch, .eval 0], none) := by
  decide
example : Gen.growSk (fun _ => false) false false false 0 none true false 0 false 0 [] =
    ([.readBatch], some .valueError) := by
  decide

end GrowSk
