import XyzProofs.Lemmas.Crop
/-!
# C12 — a crop is deleted only after its data is safely delivered

`reapFarmer` returns the state *after* the attempt even when the attempt fails, so "an error leaves every crop file in
place" is a real statement about the order of effects (which, for Harvester and Sampler crops, is read off the source
by the extracted `Gen.harvestDefersCleanup` / `Gen.samplesDefersCleanup`).
-/
namespace Crop
open Core List

variable {β : Type}

theorem defers_eval : defers .raw = false ∧ defers .runner = false ∧ defers .harvester = true ∧ defers .sampler = true := by
  simp [defers, Gen.harvestDefersCleanup, Gen.Default.harvestDefersCleanup, Gen.samplesDefersCleanup,
    Gen.Default.samplesDefersCleanup]

/-- **the order of effects once the results are gathered** (`s1` is the state the gather left): a labelling failure stops
before anything is deleted; a farmer that defers the clean-up syncs its store first, and deletes only if that went
through; the others delete at once -/
theorem reapFarmer_gathered (P : Perms) (nl : β → β) (k : FarmerKind) (env : Env) (s s1 : St β) (o : ReapOpts)
    (late : Option (Dir β) → Option (Dir β)) (info : Info) (r : List β)
    (h : reapLinear P nl s (if defers k then { o with cleanUp := some false } else o) = .ok (s1, info, r)) :
    reapFarmer P nl k env s o late =
      if k != .raw && env.labelFails then { st := s1, res := .error .label, delivered := false }
      else if defers k then
        if env.deliverFails then { st := { s1 with dir := late s1.dir }, res := .error .deliver, delivered := false }
        else { st := if cleanUpResolved o.cleanUp o.allowIncomplete then removeDir { s1 with dir := late s1.dir }
                     else { s1 with dir := late s1.dir }, res := .ok r, delivered := true }
      else { st := if cleanUpResolved o.cleanUp o.allowIncomplete then removeDir s1 else s1, res := .ok r,
             delivered := k != .raw } := by
  obtain ⟨d1, d2, d3, d4⟩ := defers_eval
  unfold reapFarmer
  cases k <;> simp only [d1, d2, d3, d4, Bool.false_eq_true, if_false, if_true] at h ⊢ <;>
    simp [h, cleanUpResolved_eq, show (FarmerKind.runner != FarmerKind.raw) = true from rfl]

/-- **an error leaves every crop file in place**, at whichever stage it occurs (results not ready or unreadable, output
description not matching, merge conflict or save error in the farmer's sync), for every farmer kind and option set;
whatever other processes did to the directory while the farmer was syncing (`late`) is all that can have changed -/
theorem c12_err_leaves_crop (P : Perms) (nl : β → β) (k : FarmerKind) (env : Env) (s : St β) (o : ReapOpts) (e : FErr)
    (late : Option (Dir β) → Option (Dir β))
    (h : (reapFarmer P nl k env s o late).res = .error e) :
    (reapFarmer P nl k env s o late).st.dir = s.dir ∨
      (e = .deliver ∧ (reapFarmer P nl k env s o late).st.dir = late s.dir) := by
  cases hlin : reapLinear P nl s (if defers k then { o with cleanUp := some false } else o) with
  | error e' => left; simp [reapFarmer, hlin]
  | ok x =>
    obtain ⟨s1, info, r⟩ := x
    have hdir := reapLinear_dir P nl s s1 _ info r hlin
    rw [reapFarmer_gathered P nl k env s s1 o late info r hlin] at h ⊢
    by_cases hl : (k != .raw && env.labelFails) = true
    · rw [if_pos hl]
      exact Or.inl hdir
    · rw [if_neg hl] at h ⊢
      by_cases hdf : defers k = true
      · rw [if_pos hdf] at h ⊢
        by_cases hf : env.deliverFails = true
        · rw [if_pos hf] at h ⊢
          cases h
          exact Or.inr ⟨rfl, by rw [← hdir]⟩
        · rw [if_neg hf] at h
          cases h
      · rw [if_neg hdf] at h
        cases h

theorem c12_err_leaves_crop_alone (P : Perms) (nl : β → β) (k : FarmerKind) (env : Env) (s : St β) (o : ReapOpts) (e : FErr)
    (h : (reapFarmer P nl k env s o).res = .error e) :
    (reapFarmer P nl k env s o).st.dir = s.dir := by
  rcases c12_err_leaves_crop P nl k env s o e id h with h1 | ⟨_, h2⟩
  · exact h1
  · simpa using h2

/-- **deleted iff delivered and clean-up resolved**: after a successful reap of an existing crop the directory is gone
exactly when the resolved `clean_up` is true, and for Runner / Harvester / Sampler crops the data was delivered (set as
the runner's last result; merged and saved for a harvester / sampler) — the deletion comes after that in the order of
effects.  This holds whatever other processes do to the directory during the sync (`late`), as long as they do not
remove it themselves: in particular growers that complete the crop *while* a partial reap is syncing do not cause it
to be deleted. -/
theorem c12_deleted_iff (P : Perms) (nl : β → β) (k : FarmerKind) (env : Env) (s : St β) (o : ReapOpts) (d : Dir β)
    (late : Option (Dir β) → Option (Dir β)) (hlate : ∀ x, late (some x) ≠ none)
    (r : List β) (hd : s.dir = some d) (h : (reapFarmer P nl k env s o late).res = .ok r) :
    ((reapFarmer P nl k env s o late).st.dir = none ↔ cleanUpResolved o.cleanUp o.allowIncomplete = true) ∧
    (k ≠ .raw → (reapFarmer P nl k env s o late).delivered = true) := by
  cases hlin : reapLinear P nl s (if defers k then { o with cleanUp := some false } else o) with
  | error e' => simp [reapFarmer, hlin] at h
  | ok x =>
    obtain ⟨s1, info, r'⟩ := x
    have hdir := reapLinear_dir P nl s s1 _ info r' hlin
    rw [hd] at hdir
    rw [reapFarmer_gathered P nl k env s s1 o late info r' hlin] at h ⊢
    by_cases hl : (k != .raw && env.labelFails) = true
    · rw [if_pos hl] at h
      cases h
    · rw [if_neg hl] at h ⊢
      by_cases hdf : defers k = true
      · rw [if_pos hdf] at h ⊢
        by_cases hf : env.deliverFails = true
        · rw [if_pos hf] at h
          cases h
        · rw [if_neg hf]
          refine ⟨?_, fun _ => rfl⟩
          cases cleanUpResolved o.cleanUp o.allowIncomplete <;> simp [removeDir, hdir, hlate d]
      · rw [if_neg hdf]
        refine ⟨?_, fun hk => by simpa using hk⟩
        cases cleanUpResolved o.cleanUp o.allowIncomplete <;> simp [removeDir, hdir]

/-- a reap only looks at the directory: two states with the same directory gather the same results.  The projection drops
the returned state, the one component that differs (the same proof gives the whole `info` beside the results). -/
theorem reapLinear_congr (P : Perms) (nl : β → β) (s s' : St β) (o : ReapOpts) (h : s'.dir = s.dir) :
    (reapLinear P nl s' o).map (fun x => (x.2.1.sweep.locs.length, x.2.2)) =
      (reapLinear P nl s o).map (fun x => (x.2.1.sweep.locs.length, x.2.2)) := by
  have hready := readyGate_snd_congr s s' o.allowIncomplete o.wait h
  have hd' := readyGate_dir s' o.allowIncomplete o.wait
  have hd := readyGate_dir s o.allowIncomplete o.wait
  unfold reapLinear
  generalize readyGate s' o.allowIncomplete o.wait = g' at hready hd'
  generalize readyGate s o.allowIncomplete o.wait = g at hready hd
  obtain ⟨a', b'⟩ := g'
  obtain ⟨a, b⟩ := g
  simp only at hready hd hd' ⊢
  subst hready
  -- the object is not read by the stream
  have hobj : ∀ d nb dflt, reapStream a'.obj d nb dflt = reapStream (β := β) a.obj d nb dflt := fun _ _ _ => rfl
  rw [hd', h, hd]
  simp only [hobj]
  -- both sides are now the same cascade of `match`es on the same terms and differ only in the state `a'` / `a` of the
  -- last leaf, which the projection drops: split them all, every leaf is `rfl`
  repeat' split
  all_goals rfl


/-- **retry is exact**: a failed attempt left the directory as it was, so once the cause is corrected the next attempt
gathers exactly what a first attempt without the failure would have gathered -/
theorem c12_retry_exact (P : Perms) (nl : β → β) (k : FarmerKind) (env : Env) (s : St β) (o o' : ReapOpts) (e : FErr)
    (h : (reapFarmer P nl k env s o).res = .error e) :
    (reapLinear P nl (reapFarmer P nl k env s o).st o').map (fun x => (x.2.1.sweep.locs.length, x.2.2)) =
      (reapLinear P nl s o').map (fun x => (x.2.1.sweep.locs.length, x.2.2)) :=
  reapLinear_congr P nl s _ o' (c12_err_leaves_crop_alone P nl k env s o e h)

/-- **options**: `clean_up=None` means `not allow_incomplete`; explicit values are honoured -/
theorem c12_options (a b : Bool) :
    cleanUpResolved none a = !a ∧ cleanUpResolved (some b) a = b := by
  simp [cleanUpResolved_eq]

end Crop
