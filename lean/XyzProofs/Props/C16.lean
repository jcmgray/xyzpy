import XyzProofs.Lemmas.Script
/-!
# C16 — generated cluster scripts grow exactly the intended batches (partial)

Stated on the model `XyzModel/Script.lean`, whose templates and decision logic (`Gen.tpl…`, `Gen.script…`) are regenerated from
`xyzpy/gen/cropping.py` on every run.  NOT proved here (validated by execution in `harness/props/c16.py` instead): that the
rendered text is a valid bash script, that the embedded program is valid Python, and that running it has the effect
`taskBatch` / `singleIds` describe.
-/
namespace Scr
open List

/-- **which ids**: the requested ones; or all of `1..B` when nothing has been grown yet; or exactly the missing ones
(which are distinct and are precisely the ids in `1..B` without a result). -/
theorem c16_ids (explicit : Option (List Nat)) (B : Nat) (done : List Nat) :
    (∀ l, explicit = some l → (chooseIds explicit B done).ids = l ∧ (chooseIds explicit B done).amode = .part) ∧
    (explicit = none → done = [] →
      (chooseIds explicit B done).ids = List.range' 1 B ∧ (chooseIds explicit B done).amode = .all ∧
      (chooseIds explicit B done).ids = missing B done) ∧
    (explicit = none → done ≠ [] →
      (chooseIds explicit B done).ids = missing B done ∧ (chooseIds explicit B done).amode = .part) ∧
    (missing B done).Nodup ∧ (∀ i, i ∈ missing B done ↔ 1 ≤ i ∧ i ≤ B ∧ i ∉ done) := by
  refine ⟨?_, ?_, ?_, nodup_missing B done, fun i => mem_missing⟩
  · intro l h; subst h
    simp [chooseIds, Gen.scriptIdsChoice, Gen.Default.scriptIdsChoice]
  · intro h hd; subst h; subst hd
    simp [chooseIds, Gen.scriptIdsChoice, Gen.Default.scriptIdsChoice, rangeList, Gen.scriptAllRangeStart,
      Gen.Default.scriptAllRangeStart, Gen.scriptAllRangeStop, Gen.Default.scriptAllRangeStop, missing_nil]
  · intro h hd; subst h
    have : done.length ≠ 0 := fun h0 => hd (List.length_eq_zero_iff.mp h0)
    simp [chooseIds, Gen.scriptIdsChoice, Gen.Default.scriptIdsChoice, this]

/-- without a request the ids are the missing ones, whether or not something has been grown -/
theorem chooseIds_none_ids (B : Nat) (done : List Nat) : (chooseIds none B done).ids = missing B done := by
  obtain ⟨_, hfresh, hpartly, _, _⟩ := c16_ids none B done
  by_cases hd : done = []
  · exact (hfresh rfl hd).2.2
  · exact (hpartly rfl hd).1

example : (chooseIds (some [4, 2]) 5 [1]).ids = [4, 2] := by decide +kernel
example : (chooseIds none 3 []).ids = [1, 2, 3] ∧ (chooseIds none 3 []).amode = .all := by decide +kernel
example : (chooseIds none 5 [2, 4]).ids = [1, 3, 5] ∧ (chooseIds none 5 [2, 4]).amode = .part := by decide +kernel

/-- the `grow(...)` line of every array template: `grow($VAR, …)` in "all" mode, `batch_ids = {batch_ids}` followed by
`grow(batch_ids[$VAR - 1], …)` in "partial" mode — read off the extracted template text -/
theorem growArg_templates (sched : Sched) :
    growArgOf (assemble sched .array .all) sched.var = .direct ∧
    growArgOf (assemble sched .array .part) sched.var = .indexed 1 := by
  cases sched <;> decide +kernel

/-- **array bijection**: for every scheduler the array range is `1..|ids|`, the task with index `t` grows `ids[t-1]`
(which is `t` itself in "all" mode), indices outside the range grow nothing, so the tasks of the range, in order, grow
exactly the ids, each once. -/
theorem c16_array_bijection (sched : Sched) (explicit : Option (List Nat)) (B : Nat) (done : List Nat) (base : Opts) :
    let s := mkScript sched .array explicit B done base
    s.ids = (chooseIds explicit B done).ids ∧
    s.runStart = 1 ∧ s.runStop = s.ids.length ∧ s.tasks = List.range' 1 s.ids.length ∧
    (∀ t, 1 ≤ t → t ≤ s.ids.length → taskBatch s t = s.ids[t - 1]?) ∧
    (∀ t, (t < 1 ∨ s.ids.length < t) → taskBatch s t = none) ∧
    s.tasks.map (taskBatch s) = s.ids.map some ∧
    s.tasks.filterMap (taskBatch s) = s.ids ∧
    (s.amode = .all → s.ids.length = B ∧ ∀ t, 1 ≤ t → t ≤ B → taskBatch s t = some t) := by
  intro s
  have hga := growArg_templates sched
  have hstart : s.runStart = 1 := by
    simp [s, mkScript, runStart, Gen.scriptRunStart, Gen.Default.scriptRunStart]
  -- "partial" mode indexes the ids from 1; "all" mode passes the index on, and the ids are then `1..B`
  have hcases : (s.amode = .part ∧ s.runStop = s.ids.length ∧ s.growArg = .indexed 1) ∨
      (s.amode = .all ∧ s.runStop = s.ids.length ∧ s.growArg = .direct ∧ s.ids = List.range' 1 B) := by
    obtain ⟨hreq, hfresh, hpartly, _, _⟩ := c16_ids explicit B done
    have part : (chooseIds explicit B done).amode = .part →
        (s.amode = .part ∧ s.runStop = s.ids.length ∧ s.growArg = .indexed 1) := by
      intro ha
      refine ⟨ha, ?_, ?_⟩
      · simp [s, mkScript, ha, runStop, Gen.scriptRunStopPartial, Gen.Default.scriptRunStopPartial]
      · simp only [s, mkScript, Script.growArg, ha]; exact hga.2
    cases explicit with
    | some l => exact Or.inl (part (hreq l rfl).2)
    | none =>
      by_cases hd : done = []
      · obtain ⟨hi, ha, _⟩ := hfresh rfl hd
        refine Or.inr ⟨ha, ?_, ?_, hi⟩
        · simp [s, mkScript, ha, hi, runStop, Gen.scriptRunStopAll, Gen.Default.scriptRunStopAll]
        · simp only [s, mkScript, Script.growArg, ha]; exact hga.1
      · exact Or.inl (part (hpartly rfl hd).2)
  have hstop : s.runStop = s.ids.length := by rcases hcases with h | h <;> exact h.2.1
  have htb : ∀ t, taskBatch s t = if 1 ≤ t ∧ t ≤ s.ids.length then s.ids[t - 1]? else none :=
    taskBatch_eq rfl hstart hstop (hcases.imp (·.2.2) (·.2.2))
  have htasks : s.tasks = List.range' 1 s.ids.length := by
    have hmode : s.mode = .array := rfl
    simp only [Script.tasks, hmode, hstart, hstop]
    congr 1
    omega
  have hin : ∀ t, 1 ≤ t → t ≤ s.ids.length → taskBatch s t = s.ids[t - 1]? := fun t h1 h2 => by rw [htb, if_pos ⟨h1, h2⟩]
  have hmap : s.tasks.map (taskBatch s) = s.ids.map some := by
    rw [htasks]; exact map_range'_of_getElem? s.ids (taskBatch s) hin
  refine ⟨rfl, hstart, hstop, htasks, hin, ?_, hmap, filterMap_of_map_eq_map_some _ _ _ hmap, ?_⟩
  · intro t ht
    rw [htb, if_neg (by omega)]
  · intro hall
    rcases hcases with h | h
    · rw [h.1] at hall; cases hall
    · have hl : s.ids.length = B := by rw [h.2.2.2]; simp
      refine ⟨hl, fun t h1 h2 => ?_⟩
      rw [hin t h1 (by omega), h.2.2.2, List.getElem?_range' (by omega)]
      exact congrArg some (by omega)

/-! the parts of `c16_array_bijection` the theorems below use, by name -/

theorem array_runStart (sched : Sched) (explicit : Option (List Nat)) (B : Nat) (done : List Nat) (base : Opts) :
    (mkScript sched .array explicit B done base).runStart = 1 :=
  (c16_array_bijection sched explicit B done base).2.1

theorem array_runStop (sched : Sched) (explicit : Option (List Nat)) (B : Nat) (done : List Nat) (base : Opts) :
    (mkScript sched .array explicit B done base).runStop = (mkScript sched .array explicit B done base).ids.length :=
  (c16_array_bijection sched explicit B done base).2.2.1

theorem array_tasks (sched : Sched) (explicit : Option (List Nat)) (B : Nat) (done : List Nat) (base : Opts) :
    (mkScript sched .array explicit B done base).tasks =
      List.range' 1 (mkScript sched .array explicit B done base).ids.length :=
  (c16_array_bijection sched explicit B done base).2.2.2.1

theorem array_grows (sched : Sched) (explicit : Option (List Nat)) (B : Nat) (done : List Nat) (base : Opts) :
    (mkScript sched .array explicit B done base).tasks.filterMap (taskBatch (mkScript sched .array explicit B done base)) =
      (mkScript sched .array explicit B done base).ids :=
  (c16_array_bijection sched explicit B done base).2.2.2.2.2.2.2.1

-- non-vacuity: a partly grown crop of 5 batches on SGE, two explicit ids on PBS, a fresh crop on SLURM
example : ((mkScript .sge .array none 5 [2, 4] []).tasks.map (taskBatch (mkScript .sge .array none 5 [2, 4] []))) =
    [some 1, some 3, some 5] := by decide +kernel
example : ((mkScript .pbs .array (some [4, 2]) 5 [] []).tasks.map (taskBatch (mkScript .pbs .array (some [4, 2]) 5 [] []))) =
    [some 4, some 2] := by decide +kernel
example : ((mkScript .slurm .array none 3 [] []).tasks.map (taskBatch (mkScript .slurm .array none 3 [] []))) =
    [some 1, some 2, some 3] := by decide +kernel
example : taskBatch (mkScript .sge .array none 5 [2, 4] []) 4 = none := by decide +kernel

/-- **the PBS size-1 rewrite is sound**: the formatted text is rewritten only for PBS and only when exactly one id is
to be grown; the array range is then 1–1, the header line that is deleted is exactly the rendered PBS array header for
that range and the task variable is replaced by the index of the only task — so the rewritten script, run once
without a task variable, grows what task 1 of the unrewritten script grows. -/
theorem c16_pbs_rewrite (sched : Sched) (explicit : Option (List Nat)) (B : Nat) (done : List Nat) (base : Opts) :
    let s := mkScript sched .array explicit B done base
    (s.rewritten = true ↔ sched = .pbs ∧ s.ids.length = 1) ∧
    (s.rewritten = true → s.tasks = [1] ∧ s.runStart = 1 ∧ s.runStop = 1) ∧
    Gen.scriptPbsReplacements =
      [(renderD (parseTpl Gen.tplPbsArrayHeader) [(chars! "run_start", .int 1), (chars! "run_stop", .int 1)], []),
       ('$' :: Sched.pbs.var, natDigits 1)] := by
  intro s
  have hlen : s.lenIds = s.ids.length := rfl
  have hiff : s.rewritten = true ↔ sched = .pbs ∧ s.ids.length = 1 := by
    simp only [Script.rewritten, hlen, Gen.scriptPbsRewrite, Gen.Default.scriptPbsRewrite, Bool.and_eq_true,
      decide_eq_true_eq]
    exact and_congr_right' (by omega)
  refine ⟨hiff, ?_, by decide +kernel⟩
  intro hr
  have h1 := (hiff.mp hr).2
  refine ⟨?_, array_runStart sched explicit B done base, ?_⟩
  · calc s.tasks = List.range' 1 s.ids.length := array_tasks sched explicit B done base
      _ = [1] := by rw [h1]; rfl
  · calc s.runStop = (s.ids.length : Int) := array_runStop sched explicit B done base
      _ = 1 := by rw [h1]; rfl

example : (mkScript .pbs .array (some [3]) 4 [] []).rewritten = true := by decide +kernel
example : (mkScript .pbs .array (some [3, 1]) 4 [] []).rewritten = false := by decide +kernel
example : (mkScript .sge .array (some [3]) 4 [] []).rewritten = false := by decide +kernel

/-- **single mode**: the one job grows exactly the requested ids, or — when none are requested — the ids that are
missing at the time it runs (the generated program calls `crop.missing_results()` itself); there is no array range. -/
theorem c16_single_ids (sched : Sched) (explicit : Option (List Nat)) (B : Nat) (done : List Nat) (base : Opts) :
    let s := mkScript sched .single explicit B done base
    s.tasks = [] ∧ (∀ t, taskBatch s t = none) ∧
    (∀ l, explicit = some l → ∀ missingNow, singleIds s missingNow = l) ∧
    (explicit = none → ∀ missingNow, singleIds s missingNow = missingNow) := by
  intro s
  have hg : ∀ am, growsBoundIds (assemble sched .single am) = true := by
    intro am; cases sched <;> cases am <;> decide +kernel
  have hmode : s.mode = .single := rfl
  have ht : growsBoundIds s.template = true := hg _
  refine ⟨by simp [Script.tasks, hmode], ?_, ?_, ?_⟩
  · intro t; simp [taskBatch, hmode]
  · intro l h m; subst h
    have hi : s.ids = l := (c16_ids (some l) B done).1 l rfl |>.1
    have hd : s.dynamic = false := by
      simp [s, mkScript, Gen.scriptSingleDynamic, Gen.Default.scriptSingleDynamic]
    simp [singleIds, hmode, ht, hd, hi]
  · intro h m; subst h
    have hd : s.dynamic = true := by
      simp [s, mkScript, Gen.scriptSingleDynamic, Gen.Default.scriptSingleDynamic]
    simp [singleIds, hmode, ht, hd]

/-- the last part of `c16_single_ids`, by name -/
theorem single_grows_missing (sched : Sched) (B : Nat) (done : List Nat) (base : Opts) (missingNow : List Nat) :
    singleIds (mkScript sched .single none B done base) missingNow = missingNow :=
  (c16_single_ids sched none B done base).2.2.2 rfl missingNow

example : singleIds (mkScript .pbs .single (some [3, 1]) 4 [1] []) [2, 3, 4] = [3, 1] := by decide +kernel
example : singleIds (mkScript .sge .single none 4 [1] []) [2, 3, 4] = [2, 3, 4] := by decide +kernel

/-- **fields closed**: for every configuration, the assembled template is well formed and every `{field}` in it is
supplied by the option record of that mode (`run_start`/`run_stop` only in array mode); the only format spec used is
`:02`, and only on hours / minutes / seconds. -/
theorem c16_fields_closed (sched : Sched) (mode : Mode) (am : AMode) :
    Seg.bad ∉ parseTpl (assemble sched mode am) ∧
    ∀ n sp, Seg.fld n sp ∈ parseTpl (assemble sched mode am) →
      n ∈ supplied mode ∧ (sp = [] ∨ (sp = ['0', '2'] ∧ n ∈ [chars! "hours", chars! "minutes", chars! "seconds"])) := by
  have h : closedB mode (parseTpl (assemble sched mode am)) = true := by
    cases sched <;> cases mode <;> cases am <;> decide +kernel
  rw [closedB, List.all_eq_true] at h
  constructor
  · intro hb; simpa using h _ hb
  · intro n sp hm
    have := h _ hm
    simp only [Bool.and_eq_true, Bool.or_eq_true, List.contains_eq_mem, decide_eq_true_eq, beq_iff_eq] at this
    exact this

/-- the same for each of the sixteen extracted template constants on its own (w.r.t. the full option record) -/
theorem c16_templates_closed : ∀ t ∈ allTemplates, closedB .array (parseTpl t) = true := by
  decide +kernel

example : (fields (parseTpl (assemble .pbs .array .part))).length = 23 := by decide +kernel
example : (chars! "batch_ids", []) ∈ fields (parseTpl (assemble .sge .array .part)) := by decide +kernel
example : (chars! "hours", ['0', '2']) ∈ fields (parseTpl (assemble .slurm .single .all)) := by decide +kernel

/-- consequently `format` cannot fail with a KeyError / TypeError / ValueError: if the option record binds every
supplied key and the three time fields hold values that accept `:02`, rendering succeeds. -/
theorem c16_render_total (sched : Sched) (mode : Mode) (am : AMode) (o : Opts)
    (hkeys : ∀ n ∈ supplied mode, ∃ v, lookup o n = some v)
    (htime : ∀ n ∈ [chars! "hours", chars! "minutes", chars! "seconds"], ∀ v, lookup o n = some v → (fmt v ['0', '2']).isSome) :
    (render (parseTpl (assemble sched mode am)) o).isSome := by
  obtain ⟨hbad, hf⟩ := c16_fields_closed sched mode am
  unfold render
  have : (parseTpl (assemble sched mode am)).all (segOk o) = true := by
    rw [List.all_eq_true]
    intro seg hs
    cases seg with
    | lit t => rfl
    | bad => exact absurd hs hbad
    | fld n sp =>
      obtain ⟨hn, hsp⟩ := hf n sp hs
      obtain ⟨v, hv⟩ := hkeys n hn
      simp only [segOk, hv]
      rcases hsp with h | ⟨h, hn'⟩
      · subst h; simp [fmt]
      · subst h; exact htime n hn' v hv
  rw [if_pos this]; rfl

/-- **balanced Python body**: for EVERY requested id list / every set of present results / every number of batches
(hence every value of `batch_ids`: any int tuple, `range(1, B+1)`, or `crop.missing_results()`), and every option
record whose string values are themselves balanced, the rendered embedded Python program has as many opening as
closing brackets of each kind and an even number of quotes of each kind.

This is a *necessary* condition for the program to be valid Python (it is exactly what D9 violated), not a proof of
validity: real validity is checked by `ast.parse` and by running the script in the harness.  The text is the program
as rendered by `str.format`; the shell later replaces `$VAR` by digits, which does not change any count. -/
theorem c16_python_balanced (sched : Sched) (mode : Mode) (explicit : Option (List Nat)) (B : Nat) (done : List Nat)
    (base : Opts) (hbase : ∀ p ∈ base, ValNeutral p.2) :
    let s := mkScript sched mode explicit B done base
    Bal (renderD (parseTpl (pythonPart s.template)) s.opts) := by
  intro s
  have hlit : ∀ am, Bal (litPart (parseTpl (pythonTemplate sched mode am))) := by
    intro am; cases sched <;> cases mode <;> cases am <;> decide +kernel
  have hdyn : Bal Gen.scriptSingleDynamicIds := by decide +kernel
  have hopts : ∀ p ∈ s.opts, ValNeutral p.2 := by
    intro p hp
    simp only [s, mkScript, List.mem_cons, List.mem_append] at hp
    rcases hp with (rfl | hp) | hp
    · -- `batch_ids`: the text of the dynamic ids, or the tuple / range that `chooseIds` stores in each of its three arms
      split
      · exact hdyn
      · simp only [chooseIds]
        split <;> trivial
    · -- `run_start`, `run_stop`: ints, and there in array mode only
      cases mode with
      | single => simp at hp
      | array =>
        simp at hp
        rcases hp with rfl | rfl <;> simp [ValNeutral]
    · exact hbase p hp
  exact bal_renderD (hlit _) (bal_fldPart hopts _)

/-- the structural lemma behind it: Python's `repr` of any int tuple — `()`, `(3,)`, `(1, 3)` — is balanced -/
theorem c16_reprTuple_balanced (l : List Nat) : Bal (reprTuple l) := bal_reprTuple l

example : reprTuple [] = chars! "()" ∧ reprTuple [3] = chars! "(3,)" ∧ reprTuple [1, 3, 12] = chars! "(1, 3, 12)" := by decide +kernel
example : pyStr (.range 1 4) = chars! "range(1, 4)" := by decide +kernel
example : Bal (renderD (parseTpl (pythonPart (assemble .sge .array .part)))
    (mkScript .sge .array (some [4, 2]) 5 [] [(chars! "name", .str (chars! "t"))]).opts) := by decide +kernel
-- the balance predicate does reject an unmatched bracket (the shape of defect D9)
example : ¬ Bal (chars! "    batch_ids = (1, 3)]\n") := by decide +kernel

/-- **then ready**: when every array task of a script generated without explicit ids has run (each task adding the
result of the batch `taskBatch` gives it), every batch `1..B` has a result and nothing else was touched, so
`is_ready_to_reap` (extracted: `Gen.isReady`) holds; with explicit ids, exactly those results are added.
(Stated over the abstract effect `growF`; that reaped values equal a direct run is C04 + the harness.) -/
theorem c16_then_ready (sched : Sched) (explicit : Option (List Nat)) (B : Nat) (has : Nat → Bool) (base : Opts) :
    let s := mkScript sched .array explicit B (doneList has B) base
    (∀ i, runArray s has i = (s.ids.contains i || has i)) ∧
    (explicit = none → 0 < B →
      (∀ i, 1 ≤ i → i ≤ B → runArray s has i = true) ∧
      (∀ i, runArray s has i = true → has i = true ∨ (1 ≤ i ∧ i ≤ B)) ∧
      Gen.isReady ((List.range' 1 B).countP (runArray s has)) B = true) := by
  intro s
  have hrun : ∀ l, s.ids = l → ∀ i, runArray s has i = growMany l has i := by
    intro l hl i
    rw [runArray, array_grows, hl]
  refine ⟨fun i => by rw [hrun _ rfl, growMany_eq], ?_⟩
  intro he hB
  subst he
  exact ready_of_grown hB fun i => by rw [hrun _ (chooseIds_none_ids B _), growMany_missing]

/-- the same for the single-mode job generated without explicit ids -/
theorem c16_then_ready_single (sched : Sched) (B : Nat) (has : Nat → Bool) (base : Opts) (hB : 0 < B) :
    let s := mkScript sched .single none B (doneList has B) base
    (∀ i, 1 ≤ i → i ≤ B → runSingle s B has i = true) ∧
    (∀ i, runSingle s B has i = true → has i = true ∨ (1 ≤ i ∧ i ≤ B)) ∧
    Gen.isReady ((List.range' 1 B).countP (runSingle s B has)) B = true := by
  refine ready_of_grown hB fun i => ?_
  rw [runSingle, single_grows_missing, growMany_missing]

-- non-vacuity: batches 2 and 4 of 5 present; after the three array tasks all five are
example : (List.range' 1 5).map (runArray (mkScript .slurm .array none 5 (doneList (fun i => i == 2 || i == 4) 5) [])
    (fun i => i == 2 || i == 4)) = [true, true, true, true, true] := by decide +kernel
example : doneList (fun i => i == 2 || i == 4) 5 = [2, 4] := by decide +kernel

end Scr
