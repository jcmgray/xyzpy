import XyzProofs.Props.C04
import XyzProofs.Props.C03
/-!
# C06 — a crop attached to a Runner, Harvester or Sampler reaps what a direct run gives

A direct labelled run and a labelled reap both (1) obtain linear results in enumeration order and (2) label them with
the same function of (description, stored sweep).  C04 shows the linear results coincide; here that is lifted to the
Dataset / DataFrame, and to anything computed from it (the harvester's merged store, the sampler's table).
-/
namespace ToDs
open Core List
variable {β : Type}

/-- a direct labelled run is `labelLinear` of the function's values in enumeration order, whatever the strategy -/
theorem toDs_eq_labelLinear (d : Desc) (f : List Nat → List β) (dfl : β) (nl : β → β) (s : Sweep) (st : Strategy)
    (hov : s.overlap = false) (hwf : st.WF s.locs.length) (hne : s.locs ≠ []) :
    toDs d f dfl nl s st = .ok (labelLinear d dfl nl s (s.locs.map f)) := by
  rw [toDs_eq d f dfl nl s st hov hwf]
  obtain ⟨first, rest, hl⟩ := List.exists_cons_of_ne_nil hne
  simp [hl, labelLinear, List.map_map, Function.comp_def]

end ToDs

namespace Crop
open Core List ToDs
variable {β : Type}

/-- **Runner crop = direct run (Dataset)**: the labelled reap of a fully and correctly grown crop equals
`combo_runner_to_ds` run directly on the stored sweep — same dimensions, coordinates, variables, cells, attributes —
for every batch configuration and shuffle permutation -/
theorem c06_runner_eq_direct (P : Perms) (f : List Nat → List β) (nl : β → β) (dfl : β) (desc : Desc)
    (s : St (List β)) (d : Dir (List β)) (info : Info) (c : Batch.Cfg) (o : ReapOpts) (st : Strategy)
    (hd : s.dir = some d) (hinfo : d.info = some info) (hov : info.sweep.overlap = false)
    (hnb : info.nb = (sownBatches P c info.sweep info.shuffle).length)
    (hr : ∀ j (hj : j < (sownBatches P c info.sweep info.shuffle).length),
        lookup d.results (j + 1) = some (.good ((sownBatches P c info.sweep info.shuffle)[j].map f)))
    (hperm : info.shuffle = 0 ∨ P info.shuffle info.sweep.locs.length ~ List.range info.sweep.locs.length)
    (hai : o.allowIncomplete = false) (hne : info.sweep.locs ≠ [])
    (hgate : (readyGate s false o.wait).2 = true) (hwf : st.WF info.sweep.locs.length) :
    ∃ s' ds, reapToDs P nl dfl desc s o = .ok (s', ds) ∧ toDs desc f dfl nl info.sweep st = .ok ds := by
  have hlin := c04_reapLinear_full P f (fun r => r.map nl) s d info c o hd hinfo hnb hr hperm hai hgate
  refine ⟨(if cleanUpResolved o.cleanUp o.allowIncomplete then { (readyGate s false o.wait).1 with dir := none }
      else (readyGate s false o.wait).1), labelLinear desc dfl nl info.sweep (info.sweep.locs.map f), ?_,
    toDs_eq_labelLinear desc f dfl nl _ st hov hwf hne⟩
  unfold reapToDs
  rw [hlin]

/-- **Sampler / DataFrame form**: the rows reaped equal the rows of a direct `*_to_df` run -/
theorem c06_df_eq_direct (P : Perms) (f : List Nat → List β) (nl : β → β) (desc : Desc)
    (s : St (List β)) (d : Dir (List β)) (info : Info) (c : Batch.Cfg) (o : ReapOpts) (st : Strategy)
    (hd : s.dir = some d) (hinfo : d.info = some info) (hov : info.sweep.overlap = false)
    (hnb : info.nb = (sownBatches P c info.sweep info.shuffle).length)
    (hr : ∀ j (hj : j < (sownBatches P c info.sweep info.shuffle).length),
        lookup d.results (j + 1) = some (.good ((sownBatches P c info.sweep info.shuffle)[j].map f)))
    (hperm : info.shuffle = 0 ∨ P info.shuffle info.sweep.locs.length ~ List.range info.sweep.locs.length)
    (hai : o.allowIncomplete = false)
    (hgate : (readyGate s false o.wait).2 = true) (hwf : st.WF info.sweep.locs.length) :
    ∃ s' rows, reapToDf P nl desc s o = .ok (s', rows) ∧
      toDf desc f (fun r => r.map nl) info.sweep st = .ok rows := by
  have hlin := c04_reapLinear_full P f (fun r => r.map nl) s d info c o hd hinfo hnb hr hperm hai hgate
  refine ⟨(if cleanUpResolved o.cleanUp o.allowIncomplete then { (readyGate s false o.wait).1 with dir := none }
      else (readyGate s false o.wait).1),
    (info.sweep.locs.zip (info.sweep.locs.map f)).map (fun (loc, r) =>
      ({ loc := loc, extra := desc.constants ++ desc.attrs, outputs := r } : Row β)), ?_, ?_⟩
  · unfold reapToDf; rw [hlin]
  · unfold toDf
    rw [core_eq f (fun r => r.map nl) info.sweep st hov hwf]

/-- **Harvester / Sampler store**: whatever the farmer computes from the delivered data (merging into the dataset on
disk, appending to the table) is the same as after a direct harvest / sample of the same settings -/
theorem c06_store_eq_direct {σ ε : Type} (deliver : DS β → σ → Except ε σ) (ds₁ ds₂ : DS β) (store : σ)
    (h : ds₁ = ds₂) : deliver ds₁ store = deliver ds₂ store := by rw [h]

/-- reloading the crop (farmer unpickled, function re-attached) changes nothing on disk -/
theorem c06_reload_irrelevant (s : St (List β)) : (opNew s none none 0).dir = s.dir := opNew_dir s none none 0

end Crop
