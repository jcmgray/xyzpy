import XyzProofs.Lemmas.Harvest
import XyzProofs.Lemmas.Dataset
/-!
# C05 — the harvested dataset is the faithful merge of everything ever harvested

Model: `XyzModel/Harvest.lean` (sessions over a store), `XyzModel/Dataset.lean` (finite-map datasets and the three
merges), `XyzModel/StoreIO.lean` (path resolution).  Extracted definitions used: the path anchors
(`Gen.saveDsExtends` … `Gen.saveMergeLoadsWithEngine`) and the overwrite dispatch (`Gen.addDsTrue/False/None`,
`Gen.saveMergeTrue/False/None`).

Here: what one operation does, in any state.  Whole histories are in `Props/C05History.lean`.
-/
namespace Harvest
open DS StoreIO

/-- **name consistency**: for every data name and engine, the path written by `save_ds`, read by `load_ds`, probed by
`Harvester.load_full_ds` (`os.access`, `os.path.isfile`), replaced by `Harvester.save_full_ds` (`os.replace`), removed by
`Harvester.delete_ds`, and probed and loaded by `save_merge_ds` are all the same path: the name with the engine's
extension added when it has none -/
theorem c05_name_consistent (name : String) (e : Engine) :
    savePath name e = autoAddExt name e ∧ loadPath name e = autoAddExt name e ∧
    hvAccessPath name e = autoAddExt name e ∧ hvIsfilePath name e = autoAddExt name e ∧
    hvExistsPath name e = autoAddExt name e ∧ hvRemovePath name e = autoAddExt name e ∧
    hvDeletePath name e = autoAddExt name e ∧
    smExistsPath name e = autoAddExt name e ∧ smLoadEngine e = e ∧ smLoadPath name e = autoAddExt name e :=
  ⟨savePath_eq name e, loadPath_eq name e, hvAccessPath_eq name e, hvIsfilePath_eq name e, hvExistsPath_eq name e,
    hvRemovePath_eq name e, hvDeletePath_eq name e, smExistsPath_eq name e, smLoadEngine_eq e, smLoadPath_eq name e⟩

/-- the value the policy decides at one point, given the old and the new value there (`none` = null / absent):
`overwrite=True` takes the new value where there is one; `overwrite=False` and the default keep the old value where
there is one (under the default policy the two can only differ if the step is rejected as a conflict) -/
def policyValue (pol : Policy) (o n : Option Tok) : Option Tok :=
  match pol with
  | .overwrite => n.orElse fun _ => o
  | _ => o.orElse fun _ => n

/-- the value an optional dataset holds at a point (`none`: no dataset, or null there) -/
def oget (old : Option Dataset) (n : String) (p : Pt) : Option Tok :=
  match old with
  | none => none
  | some o => o.get n p

/-- the coordinates of an optional dataset along a dimension (`[]`: no dataset) -/
def ocoords (old : Option Dataset) (d : String) : List Coord :=
  match old with
  | none => []
  | some o => o.coordsOf d

def Conflicts (old : Option Dataset) (N : Dataset) (pol : Policy) : Prop :=
  pol = .none ∧ ∃ n p x y, oget old n p = some x ∧ N.get n p = some y ∧ x ≠ y

theorem mergeBy_spec (pol : Policy) (o N : Dataset) :
    (Conflicts (some o) N pol → mergeBy (owKind (polArg pol)) o N = .error .conflict) ∧
    (¬ Conflicts (some o) N pol → ∃ M, mergeBy (owKind (polArg pol)) o N = .ok M ∧
        (∀ n p, M.get n p = policyValue pol (o.get n p) (N.get n p)) ∧
        (∀ d c, c ∈ M.coordsOf d ↔ c ∈ o.coordsOf d ∨ c ∈ N.coordsOf d)) := by
  cases pol with
  | overwrite =>
    refine ⟨fun h => absurd h.1 (by simp), fun _ => ⟨N.combineFirst o, rfl, ?_, ?_⟩⟩
    · intro n p; simp [policyValue, Dataset.get_combineFirst]
    · intro d c; rw [Dataset.coordsOf_combineFirst]; exact Or.comm
  | keep =>
    refine ⟨fun h => absurd h.1 (by simp), fun _ => ⟨o.combineFirst N, rfl, ?_, ?_⟩⟩
    · intro n p; simp [policyValue, Dataset.get_combineFirst]
    · intro d c; rw [Dataset.coordsOf_combineFirst]
  | none =>
    have key : o.conflicts N = true ↔ Conflicts (some o) N .none := by
      rw [Dataset.conflicts_iff]
      simp [Conflicts, oget]
    constructor
    · intro h
      simp [mergeBy, owKind, polArg, Dataset.mergeNoConflicts, key.mpr h]
    · intro h
      have hc : o.conflicts N = false := Bool.eq_false_iff.mpr fun hh => h (key.mp hh)
      refine ⟨o.combineFirst N, by simp [mergeBy, owKind, polArg, Dataset.mergeNoConflicts, hc], ?_, ?_⟩
      · intro n p; simp [policyValue, Dataset.get_combineFirst]
      · intro d c; rw [Dataset.coordsOf_combineFirst]

theorem mergeInto_spec (pol : Policy) (old : Option Dataset) (N : Dataset) :
    (Conflicts old N pol → mergeInto old (addDsKind pol) N = .error .conflict) ∧
    (¬ Conflicts old N pol → ∃ M, mergeInto old (addDsKind pol) N = .ok M ∧
        (∀ n p, M.get n p = policyValue pol (oget old n p) (N.get n p)) ∧
        (∀ d c, c ∈ M.coordsOf d ↔ c ∈ ocoords old d ∨ c ∈ N.coordsOf d)) := by
  rw [addDsKind_eq]
  cases old with
  | none =>
    refine ⟨fun h => ?_, fun _ => ⟨N, rfl, ?_, ?_⟩⟩
    · obtain ⟨_, n, p, x, y, h1, _⟩ := h
      simp [oget] at h1
    · intro n p; cases pol <;> simp [policyValue, oget]
    · intro d c; simp [ocoords]
  | some o => exact mergeBy_spec pol o N

/-- **per step** (`harvest_combos` / `harvest_cases` / `add_ds` with new data `N`, any policy, sync on or off, in any
state): let `s1` be the Harvester after the optional reload.
* If the new data conflicts with the old under the default policy, the step fails with a merge error, the store is
  unchanged and the memory is the reloaded dataset.
* Otherwise the step succeeds and at EVERY point the new memory holds the value decided by the policy from the old and
  the new value there — in particular a point the new data does not touch (`N.get n p = none`) keeps its value —,
  every old and new coordinate is present, with `sync` the same dataset is what `load_ds` now returns and no other path
  changed, without `sync` the store is untouched. -/
theorem c05_step (st : St) (sid : Nat) (s s1 : Session) (N : Dataset) (pol : Policy) (sync : Bool)
    (hs : st.sessions[sid]? = some s) (hl : preload st.store s sync = .ok s1) :
    (Conflicts s1.mem N pol →
        (addDs st sid N pol sync).2 = some .conflict ∧ (addDs st sid N pol sync).1.store = st.store ∧
        (addDs st sid N pol sync).1.sessions = st.sessions.set sid s1) ∧
    (¬ Conflicts s1.mem N pol →
        ∃ M, (addDs st sid N pol sync).2 = none ∧
          (addDs st sid N pol sync).1.sessions = st.sessions.set sid { s1 with mem := some M } ∧
          (∀ n p, M.get n p = policyValue pol (oget s1.mem n p) (N.get n p)) ∧
          (∀ n p, N.get n p = none → M.get n p = oget s1.mem n p) ∧
          (∀ d c, c ∈ M.coordsOf d ↔ c ∈ ocoords s1.mem d ∨ c ∈ N.coordsOf d) ∧
          (sync = true → load (addDs st sid N pol sync).1.store s.name s.engine = .ok M ∧
             ∀ k, k ≠ autoAddExt s.name s.engine → alookup (addDs st sid N pol sync).1.store k = alookup st.store k) ∧
          (sync = false → (addDs st sid N pol sync).1.store = st.store)) := by
  obtain ⟨hn, he⟩ := preload_fields _ _ _ _ hl
  obtain ⟨hA, hB⟩ := mergeInto_spec pol s1.mem N
  constructor
  · intro hc
    simp [addDs, hs, hl, hA hc, setSession]
  · intro hc
    obtain ⟨M0, hM, hget, hco⟩ := hB hc
    -- a point the new data does not touch keeps its value: the policy has nothing to decide there
    have hkeep : ∀ n p, N.get n p = none → M0.get n p = oget s1.mem n p := by
      intro n p hN
      rw [hget, hN]; cases pol <;> simp [policyValue]
    cases sync with
    | false =>
      have hadd : addDs st sid N pol false = (setSession st sid { s1 with mem := some M0 }, none) := by
        simp [addDs, hs, hl, hM]
      rw [hadd]
      exact ⟨M0, rfl, rfl, hget, hkeep, hco, nofun, fun _ => rfl⟩
    | true =>
      obtain ⟨store', hsv, hld, _, hoth⟩ := saveFullNew_spec st.store s1 M0
      have hadd : addDs st sid N pol true =
          ({ store := store', sessions := st.sessions.set sid { s1 with mem := some (coerceAttrs s1.engine M0) } }, none) := by
        simp [addDs, hs, hl, hM, hsv]
      rw [hadd, ← hn, ← he]
      simp only [← get_coerceAttrs s1.engine M0, ← coordsOf_coerceAttrs s1.engine M0] at hget hkeep hco
      exact ⟨_, rfl, rfl, hget, hkeep, hco, fun _ => ⟨hld, hoth⟩, nofun⟩

/-- the lazy `full_ds` property; `s1` is `s` itself when it holds something, else `s` reloaded -/
theorem fullDs_cases (st : St) (sid : Nat) (s : Session) (hs : st.sessions[sid]? = some s) :
    (∃ e, fullDs st sid = (st, .error e)) ∨
    ∃ s1, s1.name = s.name ∧ s1.engine = s.engine ∧ fullDs st sid = (setSession st sid s1, .ok s1.mem) := by
  unfold fullDs
  simp only [hs]
  cases hm : s.mem with
  | some d => exact .inr ⟨s, rfl, rfl, by rw [setSession_self st sid s hs, hm]⟩
  | none =>
    cases hl : loadFull st.store s with
    | error e => exact .inl ⟨e, rfl⟩
    | ok s1 => exact .inr ⟨s1, (loadFull_fields _ _ _ hl).1, (loadFull_fields _ _ _ hl).2, rfl⟩

theorem rewrite_spec (st : St) (sid : Nat) (s : Session) (f : Dataset → Option Dataset) (onNone : Err)
    (hs : st.sessions[sid]? = some s) (hok : (rewrite st sid f onNone).2 = none) :
    ∃ (d d' : Dataset) (s1 : Session), (fullDs st sid).2 = .ok (some d) ∧ f d = some d' ∧
      s1.name = s.name ∧ s1.engine = s.engine ∧
      (rewrite st sid f onNone).1.sessions[sid]? = some { s1 with mem := some (coerceAttrs s.engine d') } ∧
      load (rewrite st sid f onNone).1.store s.name s.engine = .ok (coerceAttrs s.engine d') := by
  unfold rewrite at hok ⊢
  rcases fullDs_cases st sid s hs with ⟨e, h⟩ | ⟨s1, hn, he, h⟩ <;> rw [h] at hok ⊢ <;> simp only at hok ⊢
  · cases hok
  · have hs1 : (setSession st sid s1).sessions[sid]? = some s1 := set_get _ _ _ _ hs
    cases hm : s1.mem with
    | none => simp [hm] at hok
    | some d =>
      cases hf : f d with
      | none => simp [hm, hf] at hok
      | some d' =>
        obtain ⟨store', hsv, hld, _, _⟩ := saveFullNew_spec st.store s1 d'
        have hst1 : (setSession st sid s1).store = st.store := rfl
        refine ⟨d, d', s1, rfl, hf, hn, he, ?_, ?_⟩
        · simp [hf, hs1, hst1, hsv, set_get _ _ _ _ hs1, he]
        · simp [hf, hs1, hst1, hsv]
          rw [← hn, ← he]; exact hld

/-- which Harvester a step saves through, if it is one that syncs memory and disk -/
def syncedSid : Step → Option Nat
  | .harvest sid _ _ true => some sid
  | .expandDims sid _ _ => some sid
  | .dropSel sid _ _ => some sid
  | .flush sid => some sid
  | _ => none

/-- **memory = disk**: after every synced step that succeeds (a harvest with `sync=True`, `expand_dims`, `drop_sel`,
`save_full_ds`), the Harvester's in-memory dataset is exactly what `load_ds(data_name, engine)` returns -/
theorem c05_mem_eq_disk (e : Engine) (st : St) (x : Step) (sid : Nat) (s : Session)
    (hx : syncedSid x = some sid) (hs : st.sessions[sid]? = some s) (hok : (step e st x).2 = none) :
    ∃ M s', (step e st x).1.sessions[sid]? = some s' ∧ s'.mem = some M ∧ s'.name = s.name ∧ s'.engine = s.engine ∧
      load (step e st x).1.store s.name s.engine = .ok M := by
  cases x with
  | newSession _ | saveMerge _ _ _ | delete _ => simp [syncedSid] at hx
  | harvest sid' N pol sync =>
    cases sync with
    | false => simp [syncedSid] at hx
    | true =>
      simp only [syncedSid, Option.some.injEq] at hx; subst hx
      simp only [step] at hok ⊢
      cases hl : preload st.store s true with
      | error er => simp [addDs, hs, hl] at hok
      | ok s1 =>
        obtain ⟨hn, he⟩ := preload_fields _ _ _ _ hl
        obtain ⟨hA, hB⟩ := c05_step st sid' s s1 N pol true hs hl
        by_cases hc : Conflicts s1.mem N pol
        · rw [(hA hc).1] at hok; simp at hok
        · obtain ⟨M, _, hsess, _, _, _, hsync, _⟩ := hB hc
          refine ⟨M, { s1 with mem := some M }, ?_, rfl, hn, he, (hsync rfl).1⟩
          rw [hsess]; exact set_get _ _ _ _ hs
  | expandDims sid' _ _ | dropSel sid' _ _ =>
    simp only [syncedSid, Option.some.injEq] at hx; subst hx
    simp only [step, expandDims, dropSel] at hok ⊢
    obtain ⟨d, d', s1, _, _, hn, he, hsess, hld⟩ := rewrite_spec st sid' s _ _ hs hok
    exact ⟨_, _, hsess, rfl, hn, he, hld⟩
  | flush sid' =>
    simp only [syncedSid, Option.some.injEq] at hx; subst hx
    simp only [step, flush, hs] at hok ⊢
    cases hm : s.mem with
    | none => simp [hm] at hok
    | some d =>
      simp only []
      refine ⟨coerceAttrs s.engine d, { s with mem := some (coerceAttrs s.engine d) }, ?_, rfl, rfl, rfl, ?_⟩
      · exact set_get _ _ _ _ hs
      · rw [load_save, coerceAttrs_idem]

/-- what the file at path `P` holds, if there is one -/
def fileDs (store : Store) (P : String) : Option Dataset := (alookup store P).map (·.ds)

theorem smOld_of_file (store : Store) (name : String) (e : Engine)
    (heng : ∀ f, alookup store (autoAddExt name e) = some f → f.engine = e) :
    smOld store name e = .ok ((fileDs store (autoAddExt name e)).getD {}) := by
  simp only [smOld, smExistsPath_eq, smLoadEngine_eq, shas, fileDs]
  cases hf : alookup store (autoAddExt name e) with
  | none => simp
  | some f => simp [(load_ok_iff _ _ _ _).mpr ⟨f, hf, heng f hf, rfl⟩]

/-- `save_merge_ds` merges into the empty dataset when there is no file: the same specification as `mergeInto_spec` -/
theorem mergeBy_getD_spec (pol : Policy) (old : Option Dataset) (N : Dataset) :
    (Conflicts old N pol → mergeBy (owKind (polArg pol)) (old.getD {}) N = .error .conflict) ∧
    (¬ Conflicts old N pol → ∃ M, mergeBy (owKind (polArg pol)) (old.getD {}) N = .ok M ∧
        (∀ n p, M.get n p = policyValue pol (oget old n p) (N.get n p)) ∧
        (∀ d c, c ∈ M.coordsOf d ↔ c ∈ ocoords old d ∨ c ∈ N.coordsOf d)) := by
  cases old with
  | none => exact mergeBy_spec pol {} N
  | some o => exact mergeBy_spec pol o N

/-- **`save_merge_ds`, one call**: with `old` the dataset in the file at the data path (nothing when there is no
file), conflicting data under the default policy fails and leaves the store unchanged; otherwise the file then holds,
at every point, the value decided by the policy, all old and new coordinates, and no other path changed -/
theorem c05_save_merge_step (store : Store) (name : String) (e : Engine) (N : Dataset) (pol : Policy)
    (heng : ∀ f, alookup store (autoAddExt name e) = some f → f.engine = e) :
    (Conflicts (fileDs store (autoAddExt name e)) N pol →
        (saveMerge store name e N pol).2 = some .conflict ∧ (saveMerge store name e N pol).1 = store) ∧
    (¬ Conflicts (fileDs store (autoAddExt name e)) N pol →
        ∃ M, (saveMerge store name e N pol).2 = none ∧
          alookup (saveMerge store name e N pol).1 (autoAddExt name e) = some ⟨e, M⟩ ∧
          (∀ n p, M.get n p = policyValue pol (oget (fileDs store (autoAddExt name e)) n p) (N.get n p)) ∧
          (∀ d c, c ∈ M.coordsOf d ↔ c ∈ ocoords (fileDs store (autoAddExt name e)) d ∨ c ∈ N.coordsOf d) ∧
          ∀ k, k ≠ autoAddExt name e → alookup (saveMerge store name e N pol).1 k = alookup store k) := by
  obtain ⟨hA, hB⟩ := mergeBy_getD_spec pol (fileDs store (autoAddExt name e)) N
  simp only [saveMerge, smOld_of_file store name e heng, saveMergeKind_eq]
  refine ⟨fun hc => by simp [hA hc], fun hc => ?_⟩
  obtain ⟨M, hM, hget, hco⟩ := hB hc
  refine ⟨coerceAttrs e M, by rw [hM], by rw [hM]; simp [alookup_save], ?_, ?_, ?_⟩
  · intro n p; rw [get_coerceAttrs]; exact hget n p
  · intro d c; rw [coordsOf_coerceAttrs]; exact hco d c
  · intro k hk'
    rw [hM]; simp [alookup_save, hk'.symm]

/-- no non-null point of the dataset mentions dimension `k` -/
def dimFree (d : Dataset) (k : String) : Prop :=
  ∀ n v, alookup d.vars n = some v → ∀ c ∈ v.cells, alookup c.1 k = none

/-- **`expand_dims(name, value)` only relabels**: every point keeps its value under the new label (the old point with
coordinate `value` added along `name`), nothing exists at any other coordinate of `name`, and the other coordinates
are unchanged -/
theorem c05_expand_relabels (d d' : Dataset) (k : String) (c : Coord) (h : d.expandDims k c = some d')
    (hfree : dimFree d k) :
    (∀ n p, alookup p k = none → d'.get n (insertKey k c p) = d.get n p) ∧
    (∀ n q t, d'.get n q = some t → alookup q k = some c) ∧
    d'.coordsOf k = [c] ∧ (∀ dim, dim ≠ k → d'.coordsOf dim = d.coordsOf dim) := by
  unfold Dataset.expandDims at h
  split at h
  · cases h
  · rename_i hk
    injection h with h; subst h
    have hv := alookup_map_val (fun _ (v : Var) =>
      ({ dims := insertDim k v.dims, cells := v.cells.map fun c' => (insertKey k c c'.1, c'.2) } : Var)) d.vars
    refine ⟨?_, ?_, ?_, ?_⟩
    · intro n p hp
      simp only [Dataset.get, Dataset.cellsOf, hv]
      cases hn : alookup d.vars n with
      | none => simp [cget]
      | some v =>
        simp only [Option.map_some, Option.getD_some]
        exact cget_map_insertKey k c v.cells p (hfree n v hn) hp
    · intro n q t hq
      simp only [Dataset.get, Dataset.cellsOf, hv] at hq
      cases hn : alookup d.vars n with
      | none => simp [hn, cget] at hq
      | some v =>
        simp only [hn, Option.map_some, Option.getD_some] at hq
        have := cget_mem _ _ _ hq
        simp only [List.mem_map] at this
        obtain ⟨e, he, heq⟩ := this
        injection heq with h1 h2
        rw [← h1]
        exact alookup_insertKey k c e.1 (hfree n v hn e he)
    · simp [Dataset.coordsOf, alookup_insertCoordDim_self k [c] d.coords (by simpa using hk)]
    · intro dim hd
      simp [Dataset.coordsOf, alookup_insertCoordDim_other k dim [c] d.coords hd]

/-- **`drop_sel` drops only what was named**: a point keeps its value unless its coordinate along `dim` is one of the
dropped labels (`keepsPt`); the coordinate list of `dim` loses exactly the dropped labels; other dimensions are
unchanged -/
theorem c05_drop_sel_only_dropped (d d' : Dataset) (dim : String) (vals : List Coord)
    (h : d.dropSel dim vals = some d') :
    (∀ n p, d'.get n p = if keepsPt dim vals p then d.get n p else none) ∧
    (∀ c, c ∈ d'.coordsOf dim ↔ c ∈ d.coordsOf dim ∧ c ∉ vals) ∧
    (∀ k, k ≠ dim → d'.coordsOf k = d.coordsOf k) := by
  unfold Dataset.dropSel at h
  split at h
  · cases h
  · rename_i cs hcs
    split at h
    · injection h with h; subst h
      have hv := alookup_map_val (fun _ (v : Var) =>
        ({ dims := v.dims, cells := v.cells.filter fun c => keepsPt dim vals c.1 } : Var)) d.vars
      have hc := alookup_map_val (dropCoords dim vals) d.coords
      refine ⟨?_, ?_, ?_⟩
      · intro n p
        simp only [Dataset.get, Dataset.cellsOf, hv]
        cases hn : alookup d.vars n with
        | none => simp [cget]
        | some v =>
          simp only [Option.map_some, Option.getD_some]
          exact cget_filter_key (keepsPt dim vals) v.cells p
      · intro c
        simp only [Dataset.coordsOf, hc, hcs]
        simp [dropCoords]
      · intro k hk
        simp only [Dataset.coordsOf, hc]
        cases alookup d.coords k <;> simp [dropCoords, hk]
    · cases h

/-! ## Non-vacuity -/

section Examples

def exOld : Dataset :=
  { coords := [("a", [1, 2])], vars := [("x", { dims := ["a"], cells := [([("a", 1)], .v 11), ([("a", 2)], .v 21)] })] }
def exNew : Dataset :=
  { coords := [("a", [2, 3])], vars := [("x", { dims := ["a"], cells := [([("a", 2)], .v 1021), ([("a", 3)], .v 31)] })] }

-- the three policies really differ on overlapping, conflicting data
example : Conflicts (some exOld) exNew .none :=
  ⟨rfl, "x", [("a", 2)], .v 21, .v 1021, by simp [oget, exOld, Dataset.get, Dataset.cellsOf, alookup, cget],
    by simp [exNew, Dataset.get, Dataset.cellsOf, alookup, cget], by simp⟩
example : ¬ Conflicts (some exOld) exNew .overwrite := fun h => by cases h.1
example : policyValue .overwrite (some (.v 21)) (some (.v 1021)) = some (.v 1021) := rfl
example : policyValue .keep (some (.v 21)) (some (.v 1021)) = some (.v 21) := rfl
example : policyValue .none (some (.v 21)) none = some (.v 21) := rfl
example : policyValue .none none (some (.v 31)) = some (.v 31) := rfl
end Examples

end Harvest
