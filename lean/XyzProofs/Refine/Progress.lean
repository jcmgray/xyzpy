import XyzModel.Crop
/-!
# Progress queries: the hand-written model is the translated source

`Gen.cropIsPrepared`, `Gen.cropCalcProgress`, `Gen.cropIsReadyToReap`, `Gen.cropMissingResults`, `Gen.cropNumSownBatches`,
`Gen.cropNumResults` are the whole bodies of `Crop.is_prepared`, `calc_progress`, `is_ready_to_reap`, `missing_results` and
the properties `num_sown_batches` / `num_results`, translated from the source on every run (harness/anchors_grow.py)
as functions of *directory queries*: does the info file exist, what batch settings does it hold, how many names match
the batch / result glob, is result file `x` a file.  Instantiated with the model's directory they are exactly the
functions the C08 theorems are about (`Crop.calcProgress`, `Crop.isReady`, `Crop.missingResults`).

`Crop.__init__` / `load_crops` (when are the settings read from disk) are at the end: `Gen.initAutoload autoload isPrepared` is the
test under which `Crop.__init__` calls `_sync_info_from_disk()`, translated on every run (harness/anchors_checkbad.py; the
extractor also checks that the constructor reads nothing else from the crop directory — the function is loaded on demand);
`Gen.initAutoloadDefault` is the default of the `autoload` parameter; `Gen.loadCropsAutoloads` says that `load_crops` makes
every crop it finds by `Crop(name=…)` with `autoload` left alone.  The model's `Crop.opNew` (a new handle syncs from the info
file if there is one) is this test at the default.
-/
set_option linter.unusedSimpArgs false
namespace Refine
open Crop

variable {β : Type}

/-- the directory queries, answered by the model's directory -/
def qInfoExists (s : St β) : Bool := match s.dir with
  | some d => d.info.isSome
  | none => false
def qInfo (s : St β) (g : Info → Nat) : Option Int := match s.dir with
  | some d => d.info.map (fun i => (g i : Int))
  | none => none
def qBatches (s : St β) : Int := match s.dir with
  | some d => d.batches.length
  | none => 0
def qResults (s : St β) : Int := match s.dir with
  | some d => d.results.length
  | none => 0
def qIsResult (s : St β) : Int → Bool := fun x => decide (0 ≤ x) && hasResult s x.toNat
def oi (o : Option Nat) : Option Int := o.map Int.ofNat

/-- the object's fields as the translated functions see them -/
def objSt (o : Obj) (sown results : Int) : Option Int × Option Int × Option Int × Int × Int :=
  (oi o.bs, oi o.nb, oi o.rem, sown, results)

macro "prog_cases " s:ident : tactic => `(tactic|
  (rcases $s:ident with ⟨o, _ | ⟨_ | info, bs, rs⟩⟩ <;>
    simp [Gen.cropCalcProgress, Gen.Default.cropCalcProgress, Gen.cropIsReadyToReap, Gen.Default.cropIsReadyToReap,
      Gen.cropNumSownBatches, Gen.Default.cropNumSownBatches, Gen.cropNumResults, Gen.Default.cropNumResults,
      Gen.isReady, Gen.Default.isReady, isReady,
      qInfoExists, qInfo, qBatches, qResults, objSt, oi, calcProgress, syncFromDisk] <;>
    try (congr 1 <;> (first | rfl | (apply decide_eq_decide.mpr; omega)))))

/-- `Crop.is_prepared` answers "the info file exists" — and looks at no other path -/
theorem isPrepared_refines (s : St β) (other : Bool) (nOther : Int) (isB : Int → Bool) (a b : Int) :
    Gen.cropIsPrepared (qInfoExists s) other (qInfo s (·.bs)) (qInfo s (·.nb)) (qInfo s (·.rem)) (qBatches s) (qResults s)
      nOther (qIsResult s) isB (oi s.obj.bs) (oi s.obj.nb) (oi s.obj.rem) a b = .ok (qInfoExists s) := by
  simp [Gen.cropIsPrepared, Gen.Default.cropIsPrepared]

/-- `Crop.calc_progress` is `Crop.calcProgress`: syncs the object from the info file and counts the names matching the
batch glob and the result glob (each its own); `-1, -1` for a crop that is not prepared -/
theorem calcProgress_refines (s : St β) (other : Bool) (nOther : Int) (isB : Int → Bool) (a b : Int) :
    Gen.cropCalcProgress (qInfoExists s) other (qInfo s (·.bs)) (qInfo s (·.nb)) (qInfo s (·.rem)) (qBatches s) (qResults s)
      nOther (qIsResult s) isB (oi s.obj.bs) (oi s.obj.nb) (oi s.obj.rem) a b
      = .ok (objSt (calcProgress s).1.obj (calcProgress s).2.sown (calcProgress s).2.results) := by
  prog_cases s

/-- `Crop.is_ready_to_reap` is `Crop.isReady`: the object is synced the same way and the answer is the same Boolean -/
theorem isReadyToReap_refines (s : St β) (other : Bool) (nOther : Int) (isB : Int → Bool) (a b : Int) :
    Gen.cropIsReadyToReap (qInfoExists s) other (qInfo s (·.bs)) (qInfo s (·.nb)) (qInfo s (·.rem)) (qBatches s) (qResults s)
      nOther (qIsResult s) isB (oi s.obj.bs) (oi s.obj.nb) (oi s.obj.rem) a b
      = .ok ((isReady s).2, objSt (isReady s).1.obj (calcProgress s).2.sown (calcProgress s).2.results) := by
  prog_cases s
  -- closed already for the source as it stands; a body that tests "no results" first (an early return or a guard, as in the
  -- stored rewrite seeded/refactors/r3_R4) leaves an `if` on the list of results, decided here
  all_goals (
    split
    · next h => subst h; simp
    · next h =>
      have hpos := List.length_pos_iff.mpr h
      simp [hpos] <;> (first | rfl | (apply decide_eq_decide.mpr; omega)))

/-- the properties `num_sown_batches` / `num_results` are the two counts of `Crop.calcProgress` -/
theorem numSownBatches_refines (s : St β) (other : Bool) (nOther : Int) (isB : Int → Bool) (a b : Int) :
    Gen.cropNumSownBatches (qInfoExists s) other (qInfo s (·.bs)) (qInfo s (·.nb)) (qInfo s (·.rem)) (qBatches s) (qResults s)
      nOther (qIsResult s) isB (oi s.obj.bs) (oi s.obj.nb) (oi s.obj.rem) a b
      = .ok ((calcProgress s).2.sown, objSt (calcProgress s).1.obj (calcProgress s).2.sown (calcProgress s).2.results) := by
  prog_cases s

theorem numResults_refines (s : St β) (other : Bool) (nOther : Int) (isB : Int → Bool) (a b : Int) :
    Gen.cropNumResults (qInfoExists s) other (qInfo s (·.bs)) (qInfo s (·.nb)) (qInfo s (·.rem)) (qBatches s) (qResults s)
      nOther (qIsResult s) isB (oi s.obj.bs) (oi s.obj.nb) (oi s.obj.rem) a b
      = .ok ((calcProgress s).2.results, objSt (calcProgress s).1.obj (calcProgress s).2.sown (calcProgress s).2.results) := by
  prog_cases s

/-- Python's `range(1, nb + 1)` filtered by "result file x is not a file" is the model's list of missing ids -/
theorem missing_list (s : St β) (nb : Nat) :
    (Gen.rangeInt 1 ((nb : Int) + 1)).filter (fun x => !(qIsResult s x))
      = (((List.range nb).map (· + 1)).filter (fun i => !hasResult s i)).map Int.ofNat := by
  have h : (((nb : Int) + 1) - 1).toNat = nb := by omega
  simp only [Gen.rangeInt, h, List.filter_map, List.map_map]
  congr 1
  · funext k
    simp only [Function.comp, Int.ofNat_eq_natCast]
    omega
  · apply List.filter_congr
    intro k _
    simp only [Function.comp, qIsResult]
    have h0 : (0 : Int) ≤ 1 + (k : Int) := by omega
    have h1 : (1 + (k : Int)).toNat = k + 1 := by omega
    simp [h0, h1]

theorem hasResult_calcProgress (s : St β) (i : Nat) : hasResult (calcProgress s).1 i = hasResult s i := by
  rcases s with ⟨o, _ | ⟨_ | info, bs, rs⟩⟩ <;> simp [calcProgress, syncFromDisk, hasResult]

/-- `Crop.missing_results` is `Crop.missingResults`: the ids `1..num_batches` (as synced from the info file) without a
result file, in increasing order; `TypeError` when `num_batches` is not known -/
theorem missingResults_refines (s : St β) (other : Bool) (nOther : Int) (isB : Int → Bool) (a b : Int) :
    Gen.cropMissingResults (qInfoExists s) other (qInfo s (·.bs)) (qInfo s (·.nb)) (qInfo s (·.rem)) (qBatches s) (qResults s)
      nOther (qIsResult s) isB (oi s.obj.bs) (oi s.obj.nb) (oi s.obj.rem) a b
      = match (missingResults s).2 with
        | .ok ms => .ok (ms.map Int.ofNat,
            objSt (missingResults s).1.obj (calcProgress s).2.sown (calcProgress s).2.results)
        | .error _ => .error .typeError := by
  have hml := fun nb => missing_list s nb
  rcases s with ⟨⟨obs, _ | onb, orem, osh⟩, _ | ⟨_ | info, bs, rs⟩⟩ <;>
    simp [Gen.cropMissingResults, Gen.Default.cropMissingResults, missingResults,
      qInfoExists, qInfo, qBatches, qResults, objSt, oi, calcProgress, syncFromDisk] <;>
    exact hml _

/-- `Crop.grow(batch_ids)` hands exactly the given ids (a bare int as a one-element tuple), in the given order, each
with this crop, to the module-level `grow` -/
theorem cropGrowIds_spec (isInt : Bool) (single : Int) (many : List Int) :
    Gen.cropGrowIds isInt single many = if isInt then [single] else many := by
  cases isInt <;> simp [Gen.cropGrowIds, Gen.Default.cropGrowIds]

/-- `Crop.grow_missing()` grows exactly what `missing_results()` lists -/
theorem growMissingIds_spec (ms : List Int) : Gen.growMissingIds ms = ms := by
  simp [Gen.growMissingIds, Gen.Default.growMissingIds]

/-! Non-vacuity: three batches sown, batch 2 grown -/
example : Gen.cropMissingResults true false (some 1) (some 3) (some 0) 3 1 0 (fun x => x == 2) (fun _ => true)
    none none none 0 0 = .ok ([1, 3], some 1, some 3, some 0, 3, 1) := by
  simp [Gen.cropMissingResults, Gen.Default.cropMissingResults]
  decide
example : Gen.cropIsReadyToReap true false (some 1) (some 3) (some 0) 3 3 0 (fun _ => true) (fun _ => true)
    none none none 0 0 = .ok (true, some 1, some 3, some 0, 3, 3) := by
  simp [Gen.cropIsReadyToReap, Gen.Default.cropIsReadyToReap]
example : Gen.cropIsReadyToReap false false none none none 0 0 0 (fun _ => false) (fun _ => false)
    none none none 0 0 = .ok (false, none, none, none, -1, -1) := by
  simp [Gen.cropIsReadyToReap, Gen.Default.cropIsReadyToReap]

/-- the settings are read exactly when `autoload` is on and the crop has been written to disk -/
theorem initAutoload_spec (autoload isPrepared : Bool) : Gen.initAutoload autoload isPrepared = (autoload && isPrepared) := by
  cases autoload <;> cases isPrepared <;> simp [Gen.initAutoload, Gen.Default.initAutoload]

/-- **`Crop(...)` as the model makes it is the translated constructor at the default `autoload`**: the new handle takes the
batch settings of the info file iff the crop is prepared, else keeps what it was given -/
theorem opNew_refines (s : St β) (bs nb : Option Nat) (sh : Nat) :
    opNew s bs nb sh =
      if Gen.initAutoload Gen.initAutoloadDefault (qInfoExists s) then
        syncFromDisk { s with obj := { bs := bs, nb := nb, rem := none, shuffle := sh } }
      else { s with obj := { bs := bs, nb := nb, rem := none, shuffle := sh } } := by
  rcases s with ⟨o, _ | ⟨_ | info, bsl, rs⟩⟩ <;>
    simp [opNew, syncFromDisk, qInfoExists, Gen.initAutoload, Gen.Default.initAutoload, Gen.initAutoloadDefault,
      Gen.Default.initAutoloadDefault]

/-- `load_crops` makes its crops the same way (by name, autoload on) -/
theorem loadCrops_autoloads : Gen.loadCropsAutoloads = true := by
  simp [Gen.loadCropsAutoloads, Gen.Default.loadCropsAutoloads]

/-! Non-vacuity: a handle asking for batch size 5 on a crop sown with batch size 2 reports 2; with no crop it keeps 5. -/
example : (opNew ({ dir := some { info := some { bs := 2, nb := 3, rem := 0, shuffle := 0, sweep := {} } } } : St Nat)
    (some 5) none 0).obj.bs = some 2 := by
  rw [opNew_refines]; simp [qInfoExists, initAutoload_spec, Gen.initAutoloadDefault, Gen.Default.initAutoloadDefault, syncFromDisk]
example : (opNew ({} : St Nat) (some 5) none 0).obj.bs = some 5 := by
  rw [opNew_refines]; simp [qInfoExists, initAutoload_spec, Gen.initAutoloadDefault, Gen.Default.initAutoloadDefault]

end Refine
