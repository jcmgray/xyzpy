import XyzProofs.Lemmas.Infini
/-!
# infiniplot: the hand-written model (`XyzModel/Infini.lean`) computes what the functions translated from the source compute (C18)

`Gen.infInitMapped` (the body of `Infiniplotter.init_mapped_dim`, a state skeleton over `Gen.MapOps`) is instantiated on the
model's state extended by the records the method keeps (`domains`, `sizes`, `values`); `Gen.infIter` / `Gen.infRanges`,
`Gen.infLineIdx`, `Gen.infHistCall` are what the loop of `plot_lines` iterates, reads from `loc` and hands to `np.histogram`.
-/
namespace Infini
open List PlotPrep

/-- the model's state together with what `init_mapped_dim` records on the plotter (not the classic plotter's `PlotPrep.PState`) -/
structure PState where
  st : State
  /-- `self.domains[prop]`: the entries of the mapped dimension when the domain was read -/
  domains : List (String × List (List Nat)) := []
  /-- `self.sizes[prop]` -/
  sizes : List (String × Nat) := []
  /-- the argument `default_values` was called with -/
  ndefaults : Option Nat := none
  /-- number of style values in `self.values[prop]` (default values only) -/
  nvals : List (String × Nat) := []
  /-- properties given as constants (`self.base_style`) -/
  consts : List String := []
  /-- `setattr(self, prop, …)` -/
  attrs : List (String × Option String) := []
deriving Repr

abbrev dimName (m : Mapping) : String := ", ".intercalate m.dims

/-- `d[k]` of a dict built by successive item assignments -/
def lookupLast {α : Type} (l : List (String × α)) (k : String) : Option α := (l.reverse.find? (·.1 == k)).map (·.2)

theorem lookupLast_append_self {α : Type} (l : List (String × α)) (k : String) (v : α) :
    lookupLast (l ++ [(k, v)]) k = some v := by
  simp [lookupLast]

/-- the meaning of the operations of `init_mapped_dim` on the model, for property `prop` mapped as `m`
(`custom`: explicit style values were passed).  Assumed by the instance: the attribute is given (`dimIsNone`), the property is
allowed in a heat map (`heatInvalid`), and default style values are given and callable (`defaultGiven`, `defaultCallable`:
in `__init__` so for color, markersize, markeredgecolor and linewidth) -/
def mapOps (prop : String) (m : Mapping) (custom : Bool) : Gen.MapOps PState where
  isFused := decide (m.dims.length > 1)
  dimIsNone := fun _ => false
  hasDim := fun s d => match d with
    | .fused => (s.st.md? (dimName m)).isSome
    | .raw => !decide (m.dims.length > 1) && (s.st.md? (dimName m)).isSome
  hasParts := fun s => m.dims.all fun d => (s.st.md? d).isSome
  orderGiven := m.order.isSome
  heatInvalid := false
  customGiven := custom
  defaultGiven := true
  defaultCallable := true
  stack := fun s => { s with st := fuse s.st m.dims }
  sel := fun s _ => { s with st := match m.order, s.st.md? (dimName m) with
    | some o, some md => s.st.setEntries (dimName m) fun _ => applyOrder s.st.ds md o
    | _, _ => s.st }
  markMapped := fun s _ => { s with st := { s.st with propDim := s.st.propDim ++ [(prop, dimName m)] } }
  dropna := fun s _ => { s with st := match s.st.md? (dimName m) with
    | some md => s.st.setEntries (dimName m) fun es => es.filter (hasData s.st md)
    | none => s.st }
  recordDomain := fun s _ => { s with domains := s.domains ++ [(prop, ((s.st.md? (dimName m)).map (·.entries)).getD [])] }
  sizeFromDomain := fun s => { s with sizes := s.sizes ++ [(prop, ((lookupLast s.domains prop).getD []).length)] }
  sizeOne := fun s => { s with sizes := s.sizes ++ [(prop, 1)] }
  evalDefaults := fun s => { s with ndefaults := lookupLast s.sizes prop }
  valuesDefault := fun s => { s with nvals := s.nvals ++ [(prop, min (s.ndefaults.getD 0) ((lookupLast s.sizes prop).getD 0))] }
  valuesCustom := fun s => s
  setConstant := fun s _ => { s with consts := s.consts ++ [prop] }
  setAttr := fun s d => { s with attrs := s.attrs ++ [(prop, d.map fun _ => dimName m)] }

/-- the mapping names dimensions of the working dataset: one present dimension, or several present dimensions that
are not fused yet (whose fusion then exists) -/
def Valid (st : State) (m : Mapping) : Prop :=
  if m.dims.length > 1 then
    (st.md? (dimName m)).isSome = false ∧ (m.dims.all fun d => (st.md? d).isSome) = true ∧
      ((fuse st m.dims).md? (dimName m)).isSome = true
  else (st.md? (dimName m)).isSome = true

/-- what `init_mapped_dim` must leave behind: the model's state, and domain / size / number of values of the
coordinates that survived -/
def expected (prop : String) (m : Mapping) (custom : Bool) (ps : PState) : PState :=
  let st' := initMappedDim ps.st prop m
  let es := ((st'.md? (dimName m)).map (·.entries)).getD []
  { st := st', domains := ps.domains ++ [(prop, es)], sizes := ps.sizes ++ [(prop, es.length)],
    ndefaults := if custom then ps.ndefaults else some es.length,
    nvals := if custom then ps.nvals else ps.nvals ++ [(prop, es.length)],
    consts := ps.consts, attrs := ps.attrs ++ [(prop, some (dimName m))] }

theorem md?_propDim (st : State) (pd : List (String × String)) (n : String) :
    ({ st with propDim := pd } : State).md? n = st.md? n := rfl

theorem setEntries_propDim (st : State) (pd : List (String × String)) (n : String) (f) :
    ({ st with propDim := pd } : State).setEntries n f = { st.setEntries n f with propDim := pd } := rfl

theorem hasData_propDim (st : State) (pd : List (String × String)) (md : MDim) :
    hasData ({ st with propDim := pd } : State) md = hasData st md := rfl

/-- the steps `init_mapped_dim` applies, in order, to a dimension `d` that is present in the working dataset -/
def mapPipeline {S : Type} (o : Gen.MapOps S) (d : Gen.DimRef) (s : S) : S :=
  let s := if o.orderGiven then o.sel s d else s
  let s := o.sizeFromDomain (o.recordDomain (o.dropna (o.markMapped s d) d) d)
  let s := if o.customGiven then o.valuesCustom s
    else if o.defaultGiven then o.valuesDefault (if o.defaultCallable then o.evalDefaults s else s) else s
  o.setAttr s (some d)

/-- **order of `init_mapped_dim`**, any operations: a dimension that is given and present (after fusing its parts, when
it is a tuple whose fusion does not exist yet) goes through select → mark → dropna → domain → size → values → setattr -/
theorem infInitMapped_order {S : Type} (o : Gen.MapOps S) (st : S) (d : Gen.DimRef)
    (hd : d = if o.isFused && (o.hasDim st .fused || o.hasParts st) then .fused else .raw)
    (hnone : o.dimIsNone d = false) (hheat : o.heatInvalid = false)
    (hhas : o.hasDim (if o.isFused && !o.hasDim st .fused && o.hasParts st then o.stack st else st) d = true) :
    Gen.infInitMapped o st =
      .ok (mapPipeline o d (if o.isFused && !o.hasDim st .fused && o.hasParts st then o.stack st else st)) := by
  subst hd
  simp only [Gen.infInitMapped, Gen.Default.infInitMapped, mapPipeline]
  -- the three tests that choose `d` and the state the steps start from
  cases h1 : o.isFused <;> cases h2 : o.hasDim st .fused <;> cases h3 : o.hasParts st
  all_goals
    simp only [h1, h2, h3, Bool.false_and, Bool.true_and, Bool.or_false, Bool.false_or, Bool.or_true, Bool.not_true,
      Bool.not_false, Bool.and_false, Bool.and_true, Bool.false_eq_true, if_false, if_true, Bool.and_self] at hnone hhas ⊢
    -- the dimension is given, present and allowed in a heat map: what is left of the body are the steps
    simp only [hnone, hhas, hheat, Bool.not_false, Bool.not_true, Bool.and_false, Bool.false_eq_true, if_false, if_true]
    -- the source tests `custom_values is None`, `mapPipeline` tests `customGiven`
    cases o.customGiven <;> rfl

theorem mapPipeline_mapOps (prop : String) (m : Mapping) (custom : Bool) (ps : PState) (d : Gen.DimRef) (st1 : State)
    (h1 : st1 = if m.dims.length > 1 then fuse ps.st m.dims else ps.st) (h : (st1.md? (dimName m)).isSome = true) :
    mapPipeline (mapOps prop m custom) d { ps with st := st1 } = expected prop m custom ps := by
  obtain ⟨md, hmd⟩ := Option.isSome_iff_exists.mp h
  unfold expected initMappedDim
  rw [← h1]
  obtain ⟨st0, domains, sizes, ndefaults, nvals, consts, attrs⟩ := ps
  cases ho : m.order with
  | none =>
    cases custom
    all_goals
      simp only [mapPipeline, mapOps, hmd, ho, lookupLast_append_self, md?_propDim, setEntries_propDim, hasData_propDim,
        Option.isSome_none, if_true, if_false, Bool.false_eq_true, Option.getD_some, Option.map_some, Nat.min_self]
      rfl
  | some ord =>
    cases custom
    all_goals
      simp only [mapPipeline, mapOps, hmd, ho, lookupLast_append_self, md?_propDim, setEntries_propDim, hasData_propDim,
        Option.isSome_some, if_true, if_false, Bool.false_eq_true, Option.getD_some, Option.map_some, Nat.min_self]
      -- after the explicit order the mapped dimension is looked up again, in the re-ordered state `st2`
      generalize State.setEntries st1 (dimName m) _ = st2
      cases hq : st2.md? (dimName m) with
      | none => simp only [hq, md?_propDim]
      | some md2 =>
        simp only [hq, md?_propDim]
        rfl

/-- **`init_mapped_dim` = the model**: the translated body, at the model's operations, computes the model's
`initMappedDim`, and records as domain / size / number of default style values those of the coordinates that are left
after the explicit order and the removal of the all-NaN coordinates -/
theorem infInitMapped_spec (prop : String) (m : Mapping) (custom : Bool) (ps : PState) (hv : Valid ps.st m) :
    Gen.infInitMapped (mapOps prop m custom) ps = .ok (expected prop m custom ps) := by
  unfold Valid at hv
  by_cases hl : m.dims.length > 1
  · simp only [hl, if_true] at hv
    rw [infInitMapped_order _ _ .fused (by simp [mapOps, hl, hv]) rfl rfl (by simp [mapOps, hl, hv]),
      ← mapPipeline_mapOps prop m custom ps .fused (fuse ps.st m.dims) (by simp [hl]) hv.2.2]
    simp [mapOps, hl, hv]
  · simp only [hl, if_false] at hv
    rw [infInitMapped_order _ _ .raw (by simp [mapOps, hl]) rfl rfl (by simp [mapOps, hl, hv]),
      ← mapPipeline_mapOps prop m custom ps .raw ps.st (by simp [hl]) hv]
    simp [mapOps, hl]

/-- the model's `initMappedDim` is the state the translated `init_mapped_dim` reaches -/
theorem initMappedDim_refines (prop : String) (m : Mapping) (custom : Bool) (ps : PState) (hv : Valid ps.st m) :
    (Gen.infInitMapped (mapOps prop m custom) ps).map (·.st) = .ok (initMappedDim ps.st prop m) := by
  rw [infInitMapped_spec prop m custom ps hv]; rfl

theorem prod_eq_pyProduct (ns : List Nat) : PlotPrep.prod ns = Gen.pyProduct (ns.map List.range) := by
  induction ns with
  | nil => rfl
  | cons n rest ih => simp only [PlotPrep.prod, Gen.pyProduct, map_cons, ih]

/-- the product iterated by `plot_lines` enumerates the model's choices, in the same order -/
theorem choices_refines (f : Final) :
    f.choices = Gen.infIter (Gen.infRanges (f.remaining.map (·.entries.length))) := by
  simp only [Gen.infIter, Gen.Default.infIter, Gen.infRanges, Gen.Default.infRanges, Final.choices, choicesOf,
    prod_eq_pyProduct]

/-- `self.<prop>` after initialisation: the name of the dimension mapped to the property -/
def Final.attr (f : Final) (p : String) : Option String := (f.st.propDim.find? (·.1 == p)).map (·.2)

/-- `self.remaining_dims` -/
def Final.remNames (f : Final) : List String := f.remaining.map (·.name)

theorem locGet_zip (mds : List MDim) (ch : List Nat) (n : String) :
    Gen.locGet ((mds.map (·.name)).zip ch) (some n) = ((posOf n mds).map fun p => ch.getD p 0).getD 0 := by
  induction mds generalizing ch with
  | nil => simp [Gen.locGet, posOf]
  | cons md rest ih =>
    cases ch with
    | nil =>
      simp only [Gen.locGet, map_cons, zip_nil_right, find?_nil, Option.map_none, Option.getD_none]
      cases posOf n (md :: rest) <;> simp
    | cons c cs =>
      have ih' := ih cs
      simp only [Gen.locGet] at ih' ⊢
      simp only [map_cons, zip_cons_cons, find?_cons, posOf]
      by_cases h : md.name == n
      · simp [h]
      · simp only [h, Bool.false_eq_true, if_false, ih']
        cases posOf n rest <;> simp

/-- `loc[self.<prop>]` is the model's index of the property (0 when the property is not mapped) -/
theorem propIdx_eq_locGet (f : Final) (p : String) (ch : List Nat) :
    (f.propIdx p ch).getD 0 = Gen.locGet (f.remNames.zip ch) (f.attr p) := by
  unfold Final.propIdx Final.propPos Final.attr Final.remNames
  cases h : (f.st.propDim.find? (·.1 == p)).map (·.2) with
  | none => simp [Gen.locGet]
  | some n => simp only [locGet_zip]

/-- the look-up of property `p` among the recorded (property, index) pairs -/
def idxOf (l : List (String × Nat)) (p : String) : Option Nat := (l.find? (·.1 == p)).map (·.2)

theorem idxOf_ite_append (c : Bool) (k : String) (v : Nat) (rest : List (String × Nat)) (p : String) :
    idxOf ((if c = true then [(k, v)] else []) ++ rest) p = if (c && k == p) = true then some v else idxOf rest p := by
  cases c
  · simp
  · by_cases h : k == p
    · simp [idxOf, h]
    · simp only [idxOf, if_true, cons_append, find?_cons, h]; rfl

theorem idxOf_ite_single (c : Bool) (k : String) (v : Nat) (p : String) :
    idxOf (if c = true then [(k, v)] else []) p = if (c && k == p) = true then some v else none := by
  simpa [idxOf] using idxOf_ite_append c k v [] p

theorem ite_isSome_map (a : Option String) (v : Nat) :
    (if a.isSome = true then some v else none) = a.map fun _ => v := by cases a <;> rfl

/-- **panel and selection of one iteration** (translated loop body): the axes are `[index of the row coordinate,
index of the column coordinate]` and `isel` receives the current coordinates of all iterated dimensions -/
theorem lineIdx_panel (f : Final) (ch : List Nat) :
    (Gen.infLineIdx f.remNames f.attr ch).i = (f.propIdx "row" ch).getD 0 ∧
    (Gen.infLineIdx f.remNames f.attr ch).j = (f.propIdx "col" ch).getD 0 ∧
    (Gen.infLineIdx f.remNames f.attr ch).isel = f.remNames.zip ch := by
  simp only [Gen.infLineIdx, Gen.Default.infLineIdx, propIdx_eq_locGet]
  refine ⟨?_, ?_, trivial⟩
  · cases f.attr "row" <;> simp [Gen.locGet]
  · cases f.attr "col" <;> simp [Gen.locGet]

/-- **style index of one iteration** (translated loop body): the index used into the style values of a mapped
property — and into its domain — is the coordinate index of the dimension mapped to it; an unmapped property uses none -/
theorem lineIdx_style (f : Final) (ch : List Nat) (p : String)
    (hp : p ∈ ["color", "marker", "markersize", "markeredgecolor", "linewidth", "linestyle"]) :
    idxOf (Gen.infLineIdx f.remNames f.attr ch).vals p = (f.attr p).map (fun _ => (f.propIdx p ch).getD 0) ∧
    idxOf (Gen.infLineIdx f.remNames f.attr ch).doms p = idxOf (Gen.infLineIdx f.remNames f.attr ch).vals p := by
  simp only [mem_cons, not_mem_nil, or_false] at hp
  rcases hp with rfl | rfl | rfl | rfl | rfl | rfl <;>
    simp only [Gen.infLineIdx, Gen.Default.infLineIdx, propIdx_eq_locGet, idxOf_ite_append, idxOf_ite_single,
      append_assoc] <;>
    (refine ⟨?_, ?_⟩ <;> simp [ite_isSome_map])

/-- the hue index is only read when a colour dimension is mapped as well -/
theorem lineIdx_hue (f : Final) (ch : List Nat) :
    idxOf (Gen.infLineIdx f.remNames f.attr ch).vals "hue" =
      (if (f.attr "color").isSome then (f.attr "hue").map (fun _ => (f.propIdx "hue" ch).getD 0) else none) ∧
    idxOf (Gen.infLineIdx f.remNames f.attr ch).doms "hue" = idxOf (Gen.infLineIdx f.remNames f.attr ch).vals "hue" := by
  simp only [Gen.infLineIdx, Gen.Default.infLineIdx, propIdx_eq_locGet, idxOf_ite_append, idxOf_ite_single,
    append_assoc]
  refine ⟨?_, ?_⟩ <;> cases f.attr "color" <;> simp [ite_isSome_map]

/-- the model's index of a property is the index the translated loop body uses, whenever the dimension mapped to the
property is one of the iterated ones -/
theorem propIdx_refines (f : Final) (ch : List Nat) (p : String)
    (hp : p ∈ ["color", "marker", "markersize", "markeredgecolor", "linewidth", "linestyle"])
    (hrem : (f.propPos p).isSome = (f.attr p).isSome) :
    f.propIdx p ch = idxOf (Gen.infLineIdx f.remNames f.attr ch).vals p := by
  rw [(lineIdx_style f ch p hp).1]
  unfold Final.propIdx
  cases h1 : f.propPos p with
  | none =>
    have h2 : f.attr p = none := by simpa [h1] using hrem.symm
    simp [h2]
  | some q =>
    obtain ⟨n, h2⟩ : ∃ n, f.attr p = some n := Option.isSome_iff_exists.mp (by rw [← hrem, h1]; rfl)
    simp [h2]

def evalDensity : Gen.HistDensity → Bool → Bool
  | .flag, b => b
  | .notFlag, b => !b
  | .const c, _ => c

/-- the meaning of the re-binning call on the finite values of a slice (NaN samples fall in no bin): what
`np.histogram(…, bins=edges, density=…)[…]` returns.  The arm for `kept = .edges` (a source that keeps the bin edges, not the
counts) only has to differ from `histY`, so that `histCall_refines` fails for such a source -/
def histOf (c : Gen.HistCall) (flag : Bool) (edges vals : List Rat) : List YVal :=
  match c.kept with
  | .counts => histY (evalDensity c.density flag) edges vals
  | .edges => edges.map .dens

/-- the re-binning call of the source is the model's `histY`: counts, or counts / (total counted · width) exactly when
`bins_density` is set -/
theorem histCall_refines (flag : Bool) (edges vals : List Rat) :
    histOf Gen.infHistCall flag edges vals = histY flag edges vals := by
  simp only [Gen.infHistCall, Gen.Default.infHistCall, histOf, evalDensity]

/-- the properties are initialised in the model's order (hue before colour, …, column before row) -/
theorem initOrder_refines : Gen.infInitCalls.map (·.1) = PROPS := by
  simp only [Gen.infInitCalls, Gen.Default.infInitCalls]; decide

/-- the model's initialisation of all mapped dimensions follows the translated sequence of calls -/
theorem initAll_refines (st : State) (maps : List (String × Mapping)) :
    initAll st maps = (Gen.infInitCalls.map (·.1)).foldl (fun st p => match lookupMap maps p with
      | some m => initMappedDim st p m
      | none => st) st := by
  rw [initOrder_refines]; rfl

/-- the kind of default style values `__init__` hands to `init_mapped_dim` for a property -/
def defaultOf (p : String) : Option Gen.StyleDefault := (Gen.infInitCalls.find? (·.1 == p)).map (·.2)

theorem styleDefaults_refines :
    defaultOf "marker" = some (.cycle "_MARKERS_DEFAULT") ∧ defaultOf "linestyle" = some (.cycle "_LINESTYLES_DEFAULT") ∧
    defaultOf "markersize" = some (.linspace 3 9) ∧ defaultOf "linewidth" = some (.linspace 1 3) := by
  simp only [defaultOf, Gen.infInitCalls, Gen.Default.infInitCalls]; decide

end Infini
