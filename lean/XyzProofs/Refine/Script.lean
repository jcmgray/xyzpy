import XyzProofs.Lemmas.Script
/-!
# Refinement: the hand model of `gen_cluster_script` = its translated body (C16)

`Gen.gcsOpts` / `Gen.gcsTail` are regenerated on every run from the statements of `gen_cluster_script`
(harness/anchors_scriptopts.py, harness/pydyn2lean.py): the option handling up to `opts = {…}`, and from there to the
`format` call (which ids, `array_mode`, which templates, `run_start` / `run_stop`, the single-mode override).
With `gcsOpts_refines` and `gcsTail_refines`, `c16_ids`, `c16_array_bijection`, `c16_single_ids`, `c16_fields_closed` (stated on
`mkScript` / `resolve`) are statements about the translated source: a behaviour-changing edit of these statements changes the
generated definitions and one of the two proofs stops checking.
-/
namespace Scr
open Gen

theorem lit_all : (chars! "all" : Str) = AMode.all.name := rfl
theorem lit_partial : (chars! "partial" : Str) = AMode.part.name := rfl

/-- the keys the assembly sets, and every other key -/
theorem optKey_cases (k : Str) :
    k = chars! "batch_ids" ∨ k = chars! "run_start" ∨ k = chars! "run_stop" ∨
      (chars! "batch_ids" ≠ k ∧ chars! "run_start" ≠ k ∧ chars! "run_stop" ≠ k) := by
  by_cases h1 : chars! "batch_ids" = k
  · exact .inl h1.symm
  by_cases h2 : chars! "run_start" = k
  · exact .inr (.inl h2.symm)
  by_cases h3 : chars! "run_stop" = k
  · exact .inr (.inr (.inl h3.symm))
  · exact .inr (.inr (.inr ⟨h1, h2, h3⟩))

/-- the three kinds of request: ids given; none given and nothing grown yet; none given and some results there -/
theorem request_cases (explicit : Option (List Nat)) (done : List Nat) :
    (∃ l, explicit = some l) ∨ (explicit = none ∧ done = []) ∨ (explicit = none ∧ ∃ a r, done = a :: r) := by
  cases explicit with
  | some l => exact .inl ⟨l, rfl⟩
  | none => cases done with
    | nil => exact .inr (.inl ⟨rfl, rfl⟩)
    | cons a r => exact .inr (.inr ⟨rfl, a, r, rfl⟩)

/-- for every scheduler / mode / request / crop state / option record, the translated assembly (`genTail`) returns the
template `Scr.mkScript` assembles and an option mapping with the same value under every key -/
theorem gcsTail_refines (sched : Sched) (mode : Mode) (explicit : Option (List Nat)) (B : Nat) (done : List Nat) (base : Opts) :
    ∃ o, genTail sched.name mode.name explicit B done base = .ok ((mkScript sched mode explicit B done base).template, o) ∧
      ∀ k, lookup o k = lookup (mkScript sched mode explicit B done base).opts k := by
  simp only [genTail, gcsTail, Gen.Default.gcsTail, mkScript, chooseIds, assemble, runStart, runStop,
    scriptIdsChoice, Gen.Default.scriptIdsChoice, scriptPieces, Gen.Default.scriptPieces,
    scriptRunStart, Gen.Default.scriptRunStart, scriptRunStopAll, Gen.Default.scriptRunStopAll,
    scriptRunStopPartial, Gen.Default.scriptRunStopPartial, scriptAllRangeStart, Gen.Default.scriptAllRangeStart,
    scriptAllRangeStop, Gen.Default.scriptAllRangeStop, scriptSingleDynamic, Gen.Default.scriptSingleDynamic,
    scriptSingleDynamicIds, Gen.Default.scriptSingleDynamicIds]
  -- with some results there, the source's test `num_results == 0` reads `↑r.length + 1 = 0`
  have hne : ∀ n : Nat, ((n : Int) + 1 = 0) = False := by intro n; simp; omega
  cases mode <;> rcases request_cases explicit done with ⟨l, rfl⟩ | ⟨rfl, rfl⟩ | ⟨rfl, a, r, rfl⟩
  all_goals
    -- the tests on mode and request are decided; the scheduler only selects templates and stays a variable
    simp [lookup_setKw, Py.lenOf, Py.tupleOf, hne, lookup]
    -- left: the two template texts, and the two option mappings under every key
    refine ⟨_, ⟨?_, rfl⟩, fun k => ?_⟩
    · cases sched <;> simp
    · -- the keys set are distinct, so the order in which they are set is immaterial: compare under each of them and
      -- under any other key
      rcases optKey_cases k with rfl | rfl | rfl | ⟨h1, h2, h3⟩
      · simp [lookup_setKw]
      · simp [lookup_setKw]
      · simp [lookup_setKw]
      · simp [lookup_setKw, h1, h2, h3]

/-- for every scheduler, mode and argument record, the translated option handling (`genOpts`) and the hand model
`Scr.resolve` give the same option record or raise the same exception class -/
theorem gcsOpts_refines (sched : Sched) (mode : Mode) (r : Raw) :
    genOpts sched.name mode.name r = resolve sched r := by
  simp only [genOpts, gcsOpts, Gen.Default.gcsOpts, resolve, lower_name, name_sge, name_pbs, name_slurm, name_array, name_single,
    mode_valid, sched_valid, Bool.not_true, Bool.false_eq_true, if_false, Py.bind_ok]
  -- The body is six statements in sequence, each of which may raise: threads (first pass) → time → memory → conda → threads
  -- (second pass) → the record.  After each the translator binds the tuple of the variables it assigns that are read later;
  -- `Py.bind_congr_map φ` compares one statement with the model's (`φ` drops the bound variables the model does not keep:
  -- `id` except after the memory statement) and goes on under both binders.  Inside a statement the proof cases on its tests;
  -- the ORDER of the statements it takes from the source as it stands, and no stored rewrite exercises that (under r6_12,
  -- which rewrites several of them, the anchor `gcsOpts` falls back).
  refine Py.bind_congr_map id ?_ (fun nt => ?_)
  · simp only [threads1, id]
    by_cases h1 : isNone r.numThreads = true <;> by_cases h2 : isNone r.numWorkers = true <;> simp [h1, h2]
  refine Py.bind_congr_map id ?_ (fun hms => ?_)
  · simp only [timeHMS, timePart, id]
    cases hb : (isNone r.hours && isNone r.minutes && isNone r.seconds)
    · cases ht : isNone r.time <;> simp
    · simp only [Bool.and_eq_true] at hb
      obtain ⟨⟨h1, h2⟩, h3⟩ := hb
      rw [(isNone_eq_true _).mp h1, (isNone_eq_true _).mp h2, (isNone_eq_true _).mp h3]
      cases r.time with
      | str s =>
        -- `time.split(":")` gives three parts, or the source's unpacking raises
        rcases hsp : splitOn ':' s with _ | ⟨a, _ | ⟨b, _ | ⟨c, _ | ⟨d, t⟩⟩⟩⟩ <;>
          simp [Py.isInt, Py.isFloat, Py.isStr, Py.split, isNone, hsp]
      | _ => simp [Py.isInt, Py.isFloat, Py.isStr, isNone]
  -- the memory statement binds `(kwargs, mem, gigabytes, mem_per_cpu)`; the model keeps the header keywords and `gigabytes`
  refine Py.bind_congr_map (fun x => (x.1, x.2.2.1)) ?_ (fun kwgb => ?_)
  · cases sched <;> simp only [memKw, setIf, memSpelling] <;>
      -- the two tests that decide whether the source raises (on SLURM `mem` may then be `gigabytes`, tested once more)
      cases hg : isNone r.gigabytes <;> cases hm : isNone r.mem <;> simp [hg, hm, Py.bind_assoc] <;>
      -- left for SLURM: the three tests that decide which header keywords are set
      cases isNone r.memPerCpu <;> cases isNone r.numProcs <;> cases isNone r.numNodes <;> simp
  refine Py.bind_congr_map id ?_ (fun ss => ?_)
  · -- once the environment is known, the source's `if not …: raise` before the last statement is the model's `if`
    simp only [condaSetup, condaEnvOf, id, Py.bind_ok_right]
    by_cases h1 : Py.truthy r.condaDefault = true <;>
      by_cases h2 : (hasSub (chars! "conda activate") r.shellSetup || hasSub (chars! "mamba activate") r.shellSetup) = true <;>
      by_cases h4 : r.condaEnv = .bool true <;>
      simp [h1, h2, h4, Py.bind_ite]
  refine Py.bind_congr_map id ?_ (fun nt2 => ?_)
  · simp only [threads2, id]
    by_cases h1 : isNone nt = true <;> by_cases h2 : isNone r.numWorkers = true <;> cases r.mpi <;>
      simp [h1, h2]
  -- the record: for each scheduler, with no extra header line or with some, both sides compute to the same fields
  cases sched <;> cases kwgb.1 <;> rfl

def raisesE {α : Type} (x : Except PyErr α) (e : PyErr) : Bool :=
  match x with
  | .error e' => e' == e
  | .ok _ => false

-- SLURM, `mem=4`, `num_procs=4`, `num_workers=2`, `hours=2`, an extra flag: threads 2, header lines in dict order
example : (genOpts (chars! "slurm") (chars! "array")
    { numProcs := .int 4, numWorkers := .int 2, mem := .int 4, hours := .int 2, condaEnv := .bool false,
      extra := [(chars! "requeue", .none)] }).toOption.bind (fun o => lookup o (chars! "header_options")) =
    some (.str (chars! "#SBATCH --requeue\n#SBATCH --cpus-per-task=4\n#SBATCH --mem=4G")) := by decide +kernel
example : (genOpts (chars! "slurm") (chars! "array")
    { numProcs := .int 4, numWorkers := .int 2, hours := .int 2, condaEnv := .bool false }).toOption.bind
      (fun o => lookup o (chars! "num_threads")) = some (.int 2) := by decide +kernel
-- `time='1:30:00'` is split into three strings; both `time` and `hours` is a ValueError; an unknown scheduler too
example : (genOpts (chars! "pbs") (chars! "array") { time := .str (chars! "1:30:00"), condaEnv := .bool false }).toOption.bind
      (fun o => lookup o (chars! "minutes")) = some (.str (chars! "30")) := by decide +kernel
example : raisesE (genOpts (chars! "pbs") (chars! "array") { time := .int 2, hours := .int 1 }) .valueError = true := by decide +kernel
example : raisesE (genOpts (chars! "lsf") (chars! "array") {}) .valueError = true := by decide +kernel
example : (genOpts (chars! "SGE") (chars! "single") { condaEnv := .bool false }).toOption.isSome = true := by decide +kernel
-- the assembly: two explicit ids in array mode → partial template, run 1..2; a fresh crop → range, run 1..B
example : (genTail (chars! "sge") (chars! "array") (some [4, 2]) 5 [1] []).toOption.map (·.2) =
    some [(chars! "batch_ids", .tuple [4, 2]), (chars! "run_start", .int 1), (chars! "run_stop", .int 2)] := by decide +kernel
example : (genTail (chars! "slurm") (chars! "array") none 3 [] []).toOption.map (·.2) =
    some [(chars! "batch_ids", .range 1 4), (chars! "run_start", .int 1), (chars! "run_stop", .int 3)] := by decide +kernel
example : (genTail (chars! "pbs") (chars! "single") none 3 [2] []).toOption.map (·.2) =
    some [(chars! "batch_ids", .str (chars! "crop.missing_results()"))] := by decide +kernel

/-- `gen_qsub_script` hands its scheduler, `batch_ids` and keyword arguments on to `gen_cluster_script`; each
`Crop.gen_<s>_script` is `gen_cluster_script` with `scheduler="<s>"` — so every entry point generates the script the
theorems are about (read off the source: `Gen.gcsWrappers`). -/
theorem gcsWrappers_faithful :
    gcsWrappers.map (·.1) = [chars! "gen_qsub_script", chars! "gen_sge_script", chars! "gen_pbs_script", chars! "gen_slurm_script"] ∧
    (∀ w ∈ gcsWrappers, w.2.2.1 = true ∧ w.2.2.2 = true) ∧
    (∀ s : Sched, (chars! "gen_" ++ s.name ++ chars! "_script", s.name, true, true) ∈ gcsWrappers) := by
  refine ⟨by decide +kernel, by decide +kernel, ?_⟩
  intro s; cases s <;> decide +kernel

end Scr
