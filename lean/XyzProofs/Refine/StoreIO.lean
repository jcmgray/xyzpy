import XyzProofs.Refine.Harvest
/-!
# `save_merge_ds`, `Harvester.delete_ds / full_ds / expand_dims / drop_sel / harvest_combos / harvest_cases`:
# the hand-written models ARE the translated source (state skeletons, harness/anchors_storeio.py)

`Gen.saveMergeDs`, `Gen.hvDeleteDs`, `Gen.hvFullDs`, `Gen.hvExpandDims`, `Gen.hvDropSel`, `Gen.hvHarvestCombos`,
`Gen.hvHarvestCases` are regenerated on every run from the bodies of the library functions, as functions over an abstract
state, the operations `Gen.StoreOps` (instance `Harvest.ops`, Refine/Harvest.lean) and the further operations
`Gen.StoreExt` (instance `Harvest.ext` below).  Here `Harvest.saveMerge`, `Harvest.deleteDs`, `Harvest.fullDs`,
`Harvest.rewrite` (= `expandDims` / `dropSel`) are shown to be these functions at the instance, and the tails of the two
harvest methods are shown to hand `sync`, `overwrite` and `engine` on to `add_ds` unchanged.
-/
namespace Harvest
open DS StoreIO Gen

/-- the backup copy next to a path -/
def bakOf (p : String) : String := p ++ ".BAK"

def ext : StoreExt HS Dataset Engine Err where
  engineLit := engineOfKey
  emptyData := {}
  noneAttr := .noData
  copyBak := fun s r =>
    match alookup s.1 (refPath s.2.name s.2.engine r) with
    | none => (s, some .io)
    | some f => ((sset s.1 (bakOf (refPath s.2.name s.2.engine r)) f, s.2), none)

/-- the body of `save_merge_ds` in one line, for any operations: probe the name with the extension of the engine in
`kwargs` (default: the literal of the source), load the bare name WITH THAT ENGINE or take the empty dataset, merge as
`overwrite` says, save under the bare name with the engine of `kwargs` (default: `save_ds`' own) -/
def saveMergeSpec {S D G E : Type} (o : StoreOps S D G E) (x : StoreExt S D G E) (ow : Option Bool) (N : D)
    (g g' : G) (st : S) : S × Option E :=
  match (if o.pathExists st (.ext (some g)) then o.loadData st .bare (some g) else .ok x.emptyData) with
  | .error e => (st, some e)
  | .ok old =>
    match o.merge (owKind ow) old N with
    | .error e => (st, some e)
    | .ok M => o.saveData st M .bare (some g')

theorem stBind_pure' {S E : Type} (r : S × Option E) : stBind r (fun s => (s, none)) = r := stBind_pure r

/-- **the translated body of `save_merge_ds` is `saveMergeSpec`** with both engines the one in `kwargs` (the default
`"h5netcdf"` when there is none) — for any state type and any operations -/
theorem saveMergeDs_eq_spec {S D G E : Type} (o : StoreOps S D G E) (x : StoreExt S D G E) (ow : Option Bool) (N : D)
    (kw : Option G) (st : S) :
    Gen.saveMergeDs o x ow N kw st =
      saveMergeSpec o x ow N (kw.getD (x.engineLit "h5netcdf")) (kw.getD (x.engineLit "h5netcdf")) st := by
  simp only [Gen.saveMergeDs, Gen.Default.saveMergeDs, saveMergeSpec, stBind_pure]
  by_cases hx : o.pathExists st (.ext (some (kw.getD (x.engineLit "h5netcdf")))) = true
  · simp only [hx, if_true]
    cases o.loadData st .bare (some (kw.getD (x.engineLit "h5netcdf"))) with
    | error e => rfl
    | ok old =>
      -- after `simp` the two sides differ only in which auxiliary function spells the same `match`: `rfl` sees through it
      rcases ow with _ | _ | _ <;> simp [owKind] <;> rfl
  · simp only [hx]
    rcases ow with _ | _ | _ <;> simp [owKind] <;> rfl

/-- **`save_merge_ds(N, name, overwrite, engine=e)` as translated, at the model's instance, is `Harvest.saveMerge`**:
same store, same error — for every name, engine, policy and store; the session part of the state is not touched -/
theorem saveMergeDs_refines (store : Store) (s : Session) (e : Engine) (N : Dataset) (pol : Policy) :
    Gen.saveMergeDs ops ext (polArg pol) N (some e) (store, s) =
      (((saveMerge store s.name e N pol).1, s), (saveMerge store s.name e N pol).2) := by
  rw [saveMergeDs_eq_spec]
  simp only [saveMergeSpec, saveMerge, smOld, smExistsPath_eq, smLoadEngine_eq, Option.getD_some, saveMergeKind_eq]
  simp only [ops, ext, refPath, Option.getD_some]
  by_cases hx : shas store (autoAddExt s.name e) = true
  · simp only [hx, if_true]
    cases hl : load store s.name e with
    | error er => rfl
    | ok old =>
      simp only []
      cases hm : mergeBy (owKind (polArg pol)) old N <;> rfl
  · have hx' : shas store (autoAddExt s.name e) = false := by simpa using hx
    simp only [hx', Bool.false_eq_true, if_false]
    cases hm : mergeBy (owKind (polArg pol)) ({} : Dataset) N <;> rfl

/-- without `engine=` in `kwargs` everything happens with h5netcdf (the literal in `save_merge_ds` and the default of
`save_ds` agree) -/
theorem saveMergeDs_default_engine (store : Store) (s : Session) (N : Dataset) (ow : Option Bool) :
    Gen.saveMergeDs ops ext ow N none (store, s) = Gen.saveMergeDs ops ext ow N (some .h5netcdf) (store, s) := by
  simp only [saveMergeDs_eq_spec, Option.getD_none, Option.getD_some]
  rfl

-- non-vacuity: a second call merges into the file the first one wrote (name without extension, joblib)
example : (Gen.saveMergeDs ops ext none { vars := [("x", ⟨[], [([], .v 2)]⟩)] } (some .joblib)
    ([("h.dmp", ⟨.joblib, { vars := [("x", ⟨[], [([], .v 1)]⟩)] }⟩)], { name := "h", engine := .joblib })).2 = some .conflict := by
  decide +kernel

/-- **`Harvester.delete_ds()` as translated, at the model's instance, is `Harvest.deleteDs`**: the file under the data
name WITH the extension of the Harvester's engine is removed (a zarr store: the directory), an absent file is an error
and nothing changes; memory is not touched -/
theorem hvDeleteDs_refines (st : St) (sid : Nat) (s : Session) (hs : st.sessions[sid]? = some s) :
    Gen.hvDeleteDs ops ext false (st.store, s) = (((deleteDs st sid).1.store, s), (deleteDs st sid).2) ∧
    (deleteDs st sid).1.sessions = st.sessions := by
  simp only [Gen.hvDeleteDs, Gen.Default.hvDeleteDs, deleteDs, hs, hvDeletePath_eq, stBind_pure, Bool.false_eq_true, if_false, stBind_ok]
  simp only [ops, refPath, Option.getD_some]
  by_cases hx : shas st.store (autoAddExt s.name s.engine) = true <;> simp [hx]

/-- which remover: for ANY operations, `delete_ds()` is `shutil.rmtree` for a zarr store and `os.remove` otherwise, on the
data name with the extension of the Harvester's own engine, and nothing else -/
theorem hvDeleteDs_dispatch {S D G E : Type} (o : StoreOps S D G E) (x : StoreExt S D G E) (st : S) :
    Gen.hvDeleteDs o x false st =
      if o.isZarr (some (o.selfEngine st)) then o.rmtree st (.ext (some (o.selfEngine st)))
      else o.remove st (.ext (some (o.selfEngine st))) := by
  -- on the text as it stands the `simp only` closes the goal; the case split is for a body that spells the test differently
  simp only [Gen.hvDeleteDs, Gen.Default.hvDeleteDs, stBind_pure, Bool.false_eq_true, if_false, stBind_ok] <;>
    cases o.isZarr (some (o.selfEngine st)) <;> simp

/-- with `backup=True` the file is first copied aside; the copy stays when the file is removed -/
theorem hvDeleteDs_backup (store : Store) (s : Session) (f : File)
    (hf : alookup store (autoAddExt s.name s.engine) = some f)
    (hne : bakOf (autoAddExt s.name s.engine) ≠ autoAddExt s.name s.engine) :
    (Gen.hvDeleteDs ops ext true (store, s)).2 = none ∧
    alookup (Gen.hvDeleteDs ops ext true (store, s)).1.1 (bakOf (autoAddExt s.name s.engine)) = some f ∧
    alookup (Gen.hvDeleteDs ops ext true (store, s)).1.1 (autoAddExt s.name s.engine) = none := by
  simp only [Gen.hvDeleteDs, Gen.Default.hvDeleteDs, stBind_pure, if_true]
  simp only [ops, ext, refPath, Option.getD_some, hf, stBind_ok]
  have hx : shas (sset store (bakOf (autoAddExt s.name s.engine)) f) (autoAddExt s.name s.engine) = true := by
    simp [shas, alookup_sset, hf]
  simp [hx, alookup_sset, alookup_serase, hne.symm]

example : bakOf (autoAddExt "h" .joblib) ≠ autoAddExt "h" .joblib := by
  intro h
  have := congrArg String.length h
  simp [bakOf, String.length_append] at this

/-- `full_ds` on both sides at once: either the read fails, with the same error and nothing changed, or both sides go on
from a session `s1` at index `sid` (`s` itself, or `s` reloaded: same name and engine) over the same store -/
theorem hvFullDs_cases (st : St) (sid : Nat) (s : Session) (hs : st.sessions[sid]? = some s) :
    (∃ e, Gen.hvFullDs ops ext (st.store, s) = ((st.store, s), some e) ∧ fullDs st sid = (st, .error e)) ∨
    (∃ s1, s1.name = s.name ∧ s1.engine = s.engine ∧ Gen.hvFullDs ops ext (st.store, s) = ((st.store, s1), none) ∧
      fullDs st sid = (setSession st sid s1, .ok s1.mem)) := by
  have hmn : ops.memIsNone (st.store, s) = s.mem.isNone := rfl
  -- (the case split also covers the body written with an early return of what is in memory)
  simp only [Gen.hvFullDs, Gen.Default.hvFullDs, stBind_pure, hmn]
  simp only [hvLoadFull_refines, hvLoadFull_refines_default, fullDs, hs]
  cases hm : s.mem with
  | some d => exact .inr ⟨s, rfl, rfl, by simp, by rw [setSession_self st sid s hs, hm]⟩
  | none =>
    cases hl : loadFull st.store s with
    | error e => exact .inl ⟨e, by simp, rfl⟩
    | ok s1 => exact .inr ⟨s1, (loadFull_fields _ _ _ hl).1, (loadFull_fields _ _ _ hl).2, by simp, rfl⟩

/-- **`Harvester.full_ds` as translated, at the model's instance, is `Harvest.fullDs`**: the file is read only when
nothing is in memory; the store is never touched; the value returned is what the object then holds -/
theorem hvFullDs_refines (st : St) (sid : Nat) (s : Session) (hs : st.sessions[sid]? = some s) :
    (Gen.hvFullDs ops ext (st.store, s)).1.1 = st.store ∧
    (fullDs st sid).1 = setSession st sid (Gen.hvFullDs ops ext (st.store, s)).1.2 ∧
    (fullDs st sid).2 = (match (Gen.hvFullDs ops ext (st.store, s)).2 with
      | none => .ok (Gen.hvFullDs ops ext (st.store, s)).1.2.mem
      | some e => .error e) := by
  rcases hvFullDs_cases st sid s hs with ⟨e, h1, h2⟩ | ⟨s1, _, _, h1, h2⟩ <;>
    simp [h1, h2, setSession_self st sid s hs]

/-- a dataset in memory is returned as it is: the file is not even looked at -/
theorem hvFullDs_mem (o : StoreOps HS Dataset Engine Err) (x : StoreExt HS Dataset Engine Err) (st : HS)
    (h : o.memIsNone st = false) : Gen.hvFullDs o x st = (st, none) := by
  simp [Gen.hvFullDs, Gen.Default.hvFullDs, h, stBind_pure]

/-- load-if-none → transform → `save_full_ds(new)` (or, without a data name, set memory) — for any operations -/
def rewriteSpec {S D G E : Type} (o : StoreOps S D G E) (x : StoreExt S D G E) (dataNameNone : Bool)
    (xf : D → Except E D) (g : Option G) (st : S) : S × Option E :=
  stBind (Gen.hvFullDs o x st) fun st =>
    match (if o.memIsNone st then Except.error x.noneAttr else xf (o.mem st)) with
    | .error e => (st, some e)
    | .ok M => if dataNameNone then (o.setMem st M, none) else Gen.hvSaveFull o dataNameNone true M g st

/-- **the translated bodies of `Harvester.expand_dims` and `drop_sel` are `rewriteSpec`**, both, for any operations -/
theorem hvRewrite_eq_spec {S D G E : Type} (o : StoreOps S D G E) (x : StoreExt S D G E) (dn : Bool)
    (xf : D → Except E D) (g : Option G) (st : S) :
    Gen.hvExpandDims o x dn xf g st = rewriteSpec o x dn xf g st ∧
    Gen.hvDropSel o x dn xf g st = rewriteSpec o x dn xf g st := by
  constructor <;>
    simp only [Gen.hvExpandDims, Gen.Default.hvExpandDims, Gen.hvDropSel, Gen.Default.hvDropSel, rewriteSpec, stBind_pure] <;>
    same_callee Gen.Default.hvFullDs Gen.hvFullDs
  -- by cases on how the `full_ds` read ends, on whether there is a data name and on what the transformation answers; the
  -- last-good `save_full_ds`, where the body mentions it, is the translated one (`hvSaveFull_default_eq`)
  all_goals
    rcases Gen.hvFullDs o x st with ⟨st1, _ | e⟩ <;> cases dn <;>
      simp only [stBind_ok, stBind_err, Bool.not_true, Bool.not_false, Bool.false_eq_true, if_true, if_false,
        hvSaveFull_default_eq] <;>
      cases (if o.memIsNone st1 then Except.error x.noneAttr else xf (o.mem st1)) <;> rfl

/-- a partial transformation of the model as the operation handed to the skeleton -/
def xfOf (f : Dataset → Option Dataset) (onNone : Err) : Dataset → Except Err Dataset :=
  fun d => match f d with
    | some d' => .ok d'
    | none => .error onNone

/-- **load-if-none → transform → save, at the model's instance, is `Harvest.rewrite`**: same error (or none), same
session afterwards, a store representing the same finite map -/
theorem rewriteSpec_refines (st : St) (sid : Nat) (s : Session) (f : Dataset → Option Dataset) (onNone : Err)
    (hs : st.sessions[sid]? = some s) (hz : s.engine ≠ .zarr)
    (ht : alookup st.store (tmpOf (autoAddExt s.name s.engine)) = none) :
    (rewriteSpec ops ext false (xfOf f onNone) none (st.store, s)).2 = (rewrite st sid f onNone).2 ∧
    (rewrite st sid f onNone).1.sessions = st.sessions.set sid (rewriteSpec ops ext false (xfOf f onNone) none (st.store, s)).1.2 ∧
    SameMap (rewriteSpec ops ext false (xfOf f onNone) none (st.store, s)).1.1 (rewrite st sid f onNone).1.store := by
  unfold rewrite rewriteSpec
  rcases hvFullDs_cases st sid s hs with ⟨e, h1, h2⟩ | ⟨s1, hn, he, h1, h2⟩
  · simp [h1, h2, SameMap, set_self _ _ _ hs]
  · rw [h1, h2, stBind_ok]
    have hs1 : (setSession st sid s1).sessions[sid]? = some s1 := set_get _ _ _ _ hs
    cases hm : s1.mem with
    | none => simp [ops, ext, hm, setSession, SameMap]
    | some d =>
      have hmem : ops.memIsNone (st.store, s1) = false := by simp [ops, hm]
      have hmemv : ops.mem (st.store, s1) = d := by simp [ops, hm]
      simp only [hmem, hmemv, Bool.false_eq_true, if_false, xfOf]
      cases hf : f d with
      | none => simp [setSession, SameMap]
      | some d' =>
        obtain ⟨store', hr, store'', hm', hsame⟩ :=
          hvSaveFull_refines st.store s1 d' (by rw [he]; exact hz) (by rw [hn, he]; exact ht)
        have hst1 : (setSession st sid s1).store = st.store := rfl
        simp only [hs1, hst1, hr, hm']
        simp [setSession, hsame]

/-- **`Harvester.expand_dims` as translated is `Harvest.expandDims`** (up to the finite map the store represents) -/
theorem hvExpandDims_refines (st : St) (sid : Nat) (s : Session) (dim : String) (value : Coord)
    (hs : st.sessions[sid]? = some s) (hz : s.engine ≠ .zarr)
    (ht : alookup st.store (tmpOf (autoAddExt s.name s.engine)) = none) :
    let r := Gen.hvExpandDims ops ext false (xfOf (fun d => d.expandDims dim value) .value) none (st.store, s)
    r.2 = (expandDims st sid dim value).2 ∧ (expandDims st sid dim value).1.sessions = st.sessions.set sid r.1.2 ∧
    SameMap r.1.1 (expandDims st sid dim value).1.store := by
  simp only [(hvRewrite_eq_spec ..).1, expandDims]
  exact rewriteSpec_refines st sid s _ _ hs hz ht

/-- **`Harvester.drop_sel` as translated is `Harvest.dropSel`** (up to the finite map the store represents) -/
theorem hvDropSel_refines (st : St) (sid : Nat) (s : Session) (dim : String) (values : List Coord)
    (hs : st.sessions[sid]? = some s) (hz : s.engine ≠ .zarr)
    (ht : alookup st.store (tmpOf (autoAddExt s.name s.engine)) = none) :
    let r := Gen.hvDropSel ops ext false (xfOf (fun d => d.dropSel dim values) .key) none (st.store, s)
    r.2 = (dropSel st sid dim values).2 ∧ (dropSel st sid dim values).1.sessions = st.sessions.set sid r.1.2 ∧
    SameMap r.1.1 (dropSel st sid dim values).1.store := by
  simp only [(hvRewrite_eq_spec ..).2, dropSel]
  exact rewriteSpec_refines st sid s _ _ hs hz ht

/-- for ANY operations: a transformation that fails (or no dataset at all) writes nothing — the state is the one the
`full_ds` read left -/
theorem hvDropSel_error_no_write {S D G E : Type} (o : StoreOps S D G E) (x : StoreExt S D G E) (dn : Bool)
    (xf : D → Except E D) (g : Option G) (st st1 : S) (e : E)
    (hl : Gen.hvFullDs o x st = (st1, none)) (hmem : o.memIsNone st1 = false) (hx : xf (o.mem st1) = .error e) :
    Gen.hvDropSel o x dn xf g st = (st1, some e) ∧ Gen.hvExpandDims o x dn xf g st = (st1, some e) := by
  simp [hvRewrite_eq_spec, rewriteSpec, hl, hmem, hx]

-- non-vacuity of the rewrite theorems: a Harvester with a file, nothing in memory, dropping a label
example : ∃ (st : St) (s : Session), st.sessions[0]? = some s ∧ s.engine ≠ .zarr ∧
    alookup st.store (tmpOf (autoAddExt s.name s.engine)) = none ∧ (dropSel st 0 "a" [1]).2 = none := by
  refine ⟨{ store := [("h.dmp", ⟨.joblib, { coords := [("a", [1, 2])] }⟩)], sessions := [{ name := "h", engine := .joblib }] },
    { name := "h", engine := .joblib }, rfl, nofun, by decide +kernel, by decide +kernel⟩

/-- **`harvest_combos` (no `...` values) and `harvest_cases` as translated**: run the runner — if that raises nothing
else happens — then `add_ds(result, sync, overwrite, engine)` with the call's own `sync`, `overwrite` and `engine`;
for any operations -/
theorem hvHarvest_eq_addDs {S D G E : Type} (o : StoreOps S D G E) (x : StoreExt S D G E) (dn sync : Bool)
    (ow : Option Bool) (run : Except E D) (g : Option G) (st : S) :
    Gen.hvHarvestCombos o x dn false sync ow run g st =
      (match run with | .error e => (st, some e) | .ok N => Gen.hvAddDs o dn sync ow N g st) ∧
    Gen.hvHarvestCases o x dn sync ow run g st =
      (match run with | .error e => (st, some e) | .ok N => Gen.hvAddDs o dn sync ow N g st) := by
  constructor <;> cases run <;>
    simp only [Gen.hvHarvestCombos, Gen.Default.hvHarvestCombos, Gen.hvHarvestCases, Gen.Default.hvHarvestCases,
      stBind_pure, Bool.false_eq_true, if_false, stBind_ok] <;>
    -- (only the last-good text of a caller mentions `Gen.Default.hvAddDs`; on a translated caller nothing is left to do)
    same_callee Gen.Default.hvAddDs Gen.hvAddDs

/-- with `...` among the values the `full_ds` property is read first (a file is loaded when nothing is in memory) -/
theorem hvHarvestCombos_ellipsis {S D G E : Type} (o : StoreOps S D G E) (x : StoreExt S D G E) (dn sync : Bool)
    (ow : Option Bool) (run : Except E D) (g : Option G) (st : S) :
    Gen.hvHarvestCombos o x dn true sync ow run g st =
      stBind (Gen.hvFullDs o x st) fun st => Gen.hvHarvestCombos o x dn false sync ow run g st := by
  simp only [Gen.hvHarvestCombos, Gen.Default.hvHarvestCombos, stBind_pure, if_true, Bool.false_eq_true, if_false, stBind_ok]
  same_callee Gen.Default.hvFullDs Gen.hvFullDs
  same_callee Gen.Default.hvAddDs Gen.hvAddDs

/-- `chunks` is handed on to `add_ds` by both methods -/
theorem hvHarvest_chunks : Gen.hvHarvestCombosChunks = true ∧ Gen.hvHarvestCasesChunks = true :=
  ⟨rfl, rfl⟩

/-- **`harvest_combos` / `harvest_cases` at the model's instance are `Harvest.addDs`** of the dataset the run returned
(composition of `hvHarvest_eq_addDs` and `hvAddDs_refines`) -/
theorem hvHarvest_refines (st : St) (sid : Nat) (s : Session) (N : Dataset) (pol : Policy) (sync : Bool)
    (hs : st.sessions[sid]? = some s) (hz : s.engine ≠ .zarr)
    (ht : alookup st.store (tmpOf (autoAddExt s.name s.engine)) = none) :
    let r := Gen.hvHarvestCases ops ext false sync (polArg pol) (.ok N) none (st.store, s)
    Gen.hvHarvestCombos ops ext false false sync (polArg pol) (.ok N) none (st.store, s) = r ∧
    r.2 = (addDs st sid N pol sync).2 ∧ (addDs st sid N pol sync).1.sessions = st.sessions.set sid r.1.2 ∧
    SameMap r.1.1 (addDs st sid N pol sync).1.store := by
  obtain ⟨h1, h2⟩ := hvHarvest_eq_addDs ops ext false sync (polArg pol) (.ok N) none (st.store, s)
  simp only [h1, h2, true_and]
  exact hvAddDs_refines st sid s N pol sync hs hz ht

end Harvest

namespace Refine

/-- `auto_add_extension`, as translated from the source (with the `any(ext in file_name …)` test and the table lookup
as inputs), is `StoreIO.autoAddExt` -/
theorem autoAddExt_refines (name : String) (e : StoreIO.Engine) (ext : String) (h : StoreIO.extOf e = some ext) :
    Gen.autoAddExt (StoreIO.hasKnownExt name) name ext = .ok (StoreIO.autoAddExt name e) := by
  cases hk : StoreIO.hasKnownExt name <;>
    simp [Gen.autoAddExt, Gen.Default.autoAddExt, StoreIO.autoAddExt, hk, h, Gen.extAppendCount,
      Gen.Default.extAppendCount, StoreIO.appendN]

end Refine
