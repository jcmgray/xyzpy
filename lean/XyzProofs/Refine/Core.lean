import XyzProofs.Lemmas.Core
import XyzProofs.Lemmas.PyDict
import XyzProofs.Lemmas.PyLoop
import XyzModel.Gen.Extracted
/-!
# The hand-written sweep model is the translated source (`combo_runner_core`, `_unflatten`, `_run_linear_*`)

`Gen.coreEnum`, `Gen.coreRunSeq`, `Gen.coreRunExec`, `Gen.coreRun`, `Gen.unflatten`, `Gen.coreProcess` are translated
from xyzpy/gen/combo_runner.py on every run (harness/pyloop2lean.py, harness/anchors_core.py).  This file proves that
`Core.Sweep.locs`, `Core.runShuffled` / `Core.runLinear`, `Core.unflatten` and `Core.processNested` — about which C01 and
C02 are proved — compute what those translated loops compute.
-/
namespace CoreRefine
open Core Gen List

variable {V α β φ : Type}

/-- a loop that appends one value per item is a `map` (whatever the body looks like: a comprehension, a loop with
`append`, with or without a named local for the value — the function `g` is found by unification) -/
theorem foldl_append_one {γ δ : Type} (g : γ → δ) (l : List γ) (acc : List δ) :
    l.foldl (fun acc x => acc ++ [g x]) acc = acc ++ l.map g :=
  PyLoop.foldl_append_one g l acc

theorem foldl_append_two {γ δ ε : Type} (g : γ → δ) (h : γ → ε) (l : List γ) (a : List δ) (b : List ε) :
    l.foldl (fun (acc : List δ × List ε) x => (acc.1 ++ [g x], acc.2 ++ [h x])) (a, b) = (a ++ l.map g, b ++ l.map h) :=
  PyLoop.foldl_append_two g h l a b

/-- `_run_linear_sequential`: the function's values in the order of the settings -/
theorem coreRunSeq_refines (f : α → β) (settings : List α) :
    Gen.coreRunSeq f settings = .ok (settings.map f) := by
  simp only [Gen.coreRunSeq, Gen.Default.coreRunSeq, foldl_append_one, List.nil_append]

/-- `_run_linear_executor`: the `i`-th collected result is the result of the future of the `i`-th submitted setting
(submission order = collection order) -/
theorem coreRunExec_refines (submit : α → φ) (getResult : φ → β) (settings : List α) :
    Gen.coreRunExec submit getResult settings = .ok (settings.map fun kws => getResult (submit kws)) := by
  simp only [Gen.coreRunExec, Gen.Default.coreRunExec, foldl_append_one, List.nil_append]
  congr 1
  induction settings with
  | nil => rfl
  | cons a t ih => simpa using ih

example : Gen.coreRunSeq (fun n : Nat => n * 2) [3, 1, 2] = .ok [6, 2, 4] := by rfl
example : Gen.coreRunExec (fun n : Nat => (n, n + 1)) (fun p : Nat × Nat => p.1 * p.2) [3, 1] = .ok [12, 2] := by rfl

/-- the keyword arguments of the call at `loc`: `dict(zip(fn_args, loc))`, then `.update(constants)` -/
def mkKws [BEq V] (fnArgs : List String) (consts : List (String × V)) (loc : List V) : List (String × V) :=
  Py.dictUpdate (Py.dictOfList (fnArgs.zip loc)) consts

theorem overlap_eq (s : Sweep) : Py.isDisjoint s.caseArgs s.comboArgs = !s.overlap := by
  simp [Py.isDisjoint, Sweep.overlap]

/-- **enumeration**: the translated loop of `combo_runner_core` rejects overlapping argument names, and otherwise
yields `fn_args = case_args + combo_args`, the locations `Sweep.locs` (cases outermost, `itertools.product` of the combo
values inside, location = case values ++ combo values) and, for every location in that order, the keyword arguments
`dict(zip(fn_args, loc))` updated with the constants -/
theorem coreEnum_refines (s : Sweep) (consts : List (String × Nat)) :
    Gen.coreEnum s.caseArgs s.comboArgs (s.caseRows.getD [[]]) s.comboVals consts
      = if s.overlap then .error .valueError
        else .ok (s.fnArgs, s.locs, s.locs.map (mkKws s.fnArgs consts)) := by
  -- by the value of the test, whichever way round the source asks it
  cases h : s.overlap
  · simp only [Gen.coreEnum, Gen.Default.coreEnum, overlap_eq, h, Bool.not_false, Bool.not_true, Bool.false_eq_true,
      if_true, if_false]
    rw [PyLoop.foldl_flat_spec (G := fun cp => (product s.comboVals).map (cp ++ ·))
        (H := fun cp => (product s.comboVals).map fun combo => mkKws s.fnArgs consts (cp ++ combo))]
    · simp [Sweep.locs, Sweep.fnArgs, List.map_flatMap, Function.comp_def]
    · rintro ⟨a, b⟩ cp
      rw [PyLoop.foldl_pair_spec (g := (cp ++ ·)) (h := fun combo => mkKws s.fnArgs consts (cp ++ combo))]
      rintro ⟨a', b'⟩ combo
      rfl
  · simp [Gen.coreEnum, Gen.Default.coreEnum, overlap_eq, h]

theorem permute_enumerate (σ : List Nat) (l : List α) (d : α) (hσ : ∀ i ∈ σ, i < l.length) :
    Py.permute σ (Py.enumerate l) = σ.map fun i => (i, l.getD i d) := by
  induction σ with
  | nil => rfl
  | cons i t ih =>
    have hi := hσ i List.mem_cons_self
    have hget : (Py.enumerate l)[i]? = some (i, l.getD i d) := by
      rw [Py.enumerate, PyLoop.enumerate_getElem?, List.getElem?_eq_getElem hi]
      simp [List.getD_eq_getElem?_getD, hi]
    have ht := ih fun j hj => hσ j (List.mem_cons_of_mem _ hj)
    simp only [Py.permute, List.filterMap_cons, hget, List.map_cons] at ht ⊢
    rw [ht]

/-- `enum, settings = zip(*enum_settings)` after `random.shuffle(enum_settings)`: the index list and the settings in
shuffled order (Python has nothing to unpack when the list is empty: `none`) -/
theorem unzip_shuffled (settings : List α) (σ : List Nat) (d : α) (hσ : ∀ i ∈ σ, i < settings.length) (hne : σ ≠ []) :
    (if (Py.permute σ (Py.enumerate settings)).isEmpty then none else some (Py.permute σ (Py.enumerate settings)).unzip)
      = some (σ, applyPerm σ settings d) := by
  rw [permute_enumerate σ settings d hσ]
  cases σ with
  | nil => exact absurd rfl hne
  | cons i t => simp [PyLoop.unzip_map_pair, applyPerm]

/-- `enum, xs = zip(*sorted(zip(enum, xs), key=fst))`: what is unpacked when the shuffled run was not empty -/
theorem unzip_sortedBack {γ : Type} (σ : List Nat) (xs : List γ) (h : σ.zip xs ≠ []) :
    (if (Py.sortedOn Py.leNat (fun x' => x'.1) (σ.zip xs)).isEmpty then none
      else some (Py.sortedOn Py.leNat (fun x' => x'.1) (σ.zip xs)).unzip) = some ((σ.zip xs).mergeSort keyLE).unzip := by
  have hs : Py.sortedOn Py.leNat (fun x' : Nat × γ => x'.1) (σ.zip xs) = (σ.zip xs).mergeSort keyLE := rfl
  have : (σ.zip xs).mergeSort keyLE ≠ [] := fun h0 =>
    h (List.length_eq_zero_iff.mp (by rw [← List.length_mergeSort (le := keyLE), h0]; rfl))
  rw [hs]
  simp [this]

theorem zip_applyPerm_ne_nil {γ : Type} (g : α → γ) (settings : List α) (σ : List Nat) (d : α) (hne : σ ≠ []) :
    σ.zip ((applyPerm σ settings d).map g) ≠ [] := by
  cases σ with
  | nil => exact absurd rfl hne
  | cons i t => simp [applyPerm]

/-- without `shuffle` the settings are run as enumerated — by the pool when an executor was given or a pool asked for,
else sequentially — and the results are returned as collected.  (`leR`, the order `sorted` would use if the source sorted
on results, and `fl` are parameters of the generated signature that the current source never uses.) -/
theorem coreRun_plain (leR : β → β → Bool) (σ : List Nat) (fl eg pa : Bool) (runSeq runExec : List α → List β)
    (settings : List α) :
    Gen.coreRun leR σ false fl eg pa runSeq runExec settings
      = .ok (settings, (if eg || pa then runExec else runSeq) settings) := by
  simp only [Gen.coreRun, Gen.Default.coreRun]
  cases eg <;> cases pa <;> rfl

/-- **shuffle**: with `shuffle`, the list that is run is the list of settings permuted by what `random.shuffle` did
to `list(enumerate(settings))`, and the results are put back by sorting the (index, result) pairs on the index:
exactly `Core.applyPerm` / `Core.runShuffled` — for every index list `σ` within range, every way of running -/
theorem coreRun_shuffled (leR : β → β → Bool) (f : α → β) (settings : List α) (σ : List Nat) (d : α) (fl eg pa : Bool)
    (hσ : ∀ i ∈ σ, i < settings.length) (hne : σ ≠ []) :
    Gen.coreRun leR σ true fl eg pa (List.map f) (List.map f) settings
      = .ok (applyPerm σ settings d, runShuffled f settings σ d) := by
  simp only [Gen.coreRun, Gen.Default.coreRun, if_true, unzip_shuffled settings σ d hσ hne,
    unzip_sortedBack σ _ (zip_applyPerm_ne_nil f settings σ d hne)]
  cases eg <;> cases pa <;> simp [runShuffled]

/-- `shuffle` with nothing to run: Python has nothing to unpack in `enum, settings = zip(*enum_settings)` -/
theorem coreRun_shuffled_empty (leR : β → β → Bool) (σ : List Nat) (fl eg pa : Bool) (runSeq runExec : List α → List β) :
    Gen.coreRun leR σ true fl eg pa runSeq runExec [] = .error .valueError := by
  simp only [Gen.coreRun, Gen.Default.coreRun]
  have : Py.permute σ (Py.enumerate ([] : List α)) = [] := by
    cases σ with
    | nil => rfl
    | cons i t => simp [Py.permute, Py.enumerate]
  simp [this]

/-- the flags of the translated run that a `Strategy` stands for: the shuffle permutation, and whether an executor is given -/
def stShuffle : Strategy → Option (List Nat)
  | .seq => none | .executor _ => none | .shuffled σ => some σ | .shuffledExecutor σ _ => some σ

def stExec : Strategy → Bool
  | .seq => false | .shuffled _ => false | _ => true

/-- the list handed to the runner under a strategy: as enumerated, or permuted by the shuffle -/
def ranUnder (st : Strategy) (settings : List α) (d : α) : List α :=
  ((stShuffle st).map fun σ => applyPerm σ settings d).getD settings

theorem ranUnder_perm (st : Strategy) (settings : List α) (d : α) (hwf : st.WF settings.length) :
    ranUnder st settings d ~ settings := by
  cases st with
  | seq | executor π => exact List.Perm.refl _
  | shuffled σ => exact applyPerm_perm σ settings d hwf
  | shuffledExecutor σ π => exact applyPerm_perm σ settings d hwf.1

theorem ranUnder_map {γ : Type} (h : α → γ) (st : Strategy) (settings : List α) (d : α) :
    ranUnder st (settings.map h) (h d) = (ranUnder st settings d).map h := by
  unfold ranUnder
  cases stShuffle st with
  | none => rfl
  | some σ => simp [applyPerm, List.getD_eq_getElem?_getD, List.getElem?_map]

/-- the translated run under any strategy, for settings of any type: the settings are run as enumerated or as
shuffled, and the results come back in enumeration order -/
theorem coreRun_strategy (leR : β → β → Bool) (f : α → β) (settings : List α) (d : α) (st : Strategy) (fl : Bool)
    (hwf : st.WF settings.length) (hne : settings ≠ []) :
    Gen.coreRun leR ((stShuffle st).getD []) (stShuffle st).isSome fl (stExec st) false (List.map f) (List.map f) settings
      = .ok (ranUnder st settings d, settings.map f) := by
  have hr : ∀ σ : List Nat, σ ~ List.range settings.length →
      Gen.coreRun leR σ true fl (stExec st) false (List.map f) (List.map f) settings
        = .ok (applyPerm σ settings d, settings.map f) := by
    intro σ h
    obtain ⟨h1, h2⟩ := PyLoop.perm_range_spec h (by simpa using hne)
    rw [coreRun_shuffled leR f settings σ d fl _ false h1 h2, runShuffled_eq f settings σ d h]
  cases st with
  | seq | executor π => simp [stShuffle, stExec, ranUnder, coreRun_plain]
  | shuffled σ => simpa [stShuffle, ranUnder] using hr σ hwf
  | shuffledExecutor σ π => simpa [stShuffle, ranUnder] using hr σ hwf.1

/-- **the linear run of the model is the translated run**: results of `Core.runLinear` are the results of the
translated slice, and the list the translated slice hands to the runner is the model's call log before an executor
reorders it -/
theorem coreRun_runLinear (leR : β → β → Bool) (f : List Nat → β) (locs : List (List Nat)) (st : Strategy) (fl : Bool)
    (hwf : st.WF locs.length) (hne : locs ≠ []) :
    Gen.coreRun leR ((stShuffle st).getD []) (stShuffle st).isSome fl (stExec st) false (List.map f) (List.map f) locs
      = .ok (match stShuffle st with | none => locs | some σ => applyPerm σ locs [], (runLinear f locs st).2) := by
  rw [coreRun_strategy leR f locs [] st fl hwf hne, runLinear_results f locs st hwf]
  unfold ranUnder
  cases stShuffle st <;> rfl

section dict
variable {κ ν : Type} [BEq κ] [LawfulBEq κ]

theorem dictGet_nil (k : κ) : Py.dictGet ([] : List (κ × ν)) k = none := rfl

end dict

section unflat
variable [BEq V] [LawfulBEq V]

/-- the stateful comprehension `tuple(store.pop(p + (v,), all_nan) for v in last)`: (store afterwards, items) -/
def popAll (dflt : Nest β) (p last : List V) (s : List (List V × Nest β)) : List (List V × Nest β) × List (Nest β) :=
  last.foldl (fun acc v => (Py.dictErase acc.1 (p ++ [v]), acc.2 ++ [(Py.dictGet acc.1 (p ++ [v])).getD dflt])) (s, [])

/-- one `store[p] = tuple(...)` -/
def stepP (dflt : Nest β) (last : List V) (s : List (List V × Nest β)) (p : List V) : List (List V × Nest β) :=
  Py.dictSet (popAll dflt p last s).1 p (.node (popAll dflt p last s).2)

/-- the loop body as a function of (remaining arguments, popped argument, store) -/
def body (dflt : Nest β) (init : List (List V)) (last : List V) (s : List (List V × Nest β)) : List (List V × Nest β) :=
  (product init).foldl (stepP dflt last) s

/-- the pops erase the keys `p + (v,)`, and when `last` lists no value twice each of them reads what the store held
before the first (a popped key is gone: a repeated value would read the default the second time) -/
theorem popAll_eq (dflt : Nest β) (p last : List V) (hl : last.Nodup) (s : List (List V × Nest β)) :
    popAll dflt p last s
      = ((last.map (p ++ [·])).foldl Py.dictErase s, last.map fun v => (Py.dictGet s (p ++ [v])).getD dflt) := by
  suffices h : ∀ items, last.foldl (fun (acc : List (List V × Nest β) × List (Nest β)) v =>
        (Py.dictErase acc.1 (p ++ [v]), acc.2 ++ [(Py.dictGet acc.1 (p ++ [v])).getD dflt])) (s, items)
      = ((last.map (p ++ [·])).foldl Py.dictErase s, items ++ last.map fun v => (Py.dictGet s (p ++ [v])).getD dflt) from
    h []
  induction last generalizing s with
  | nil => intro items; simp
  | cons v t ih =>
    intro items
    obtain ⟨hv, ht⟩ := List.nodup_cons.mp hl
    have hread : ∀ w ∈ t, (Py.dictGet (Py.dictErase s (p ++ [v])) (p ++ [w])).getD dflt = (Py.dictGet s (p ++ [w])).getD dflt := by
      intro w hw
      rw [Py.get_erase, if_neg (by simpa using fun h : w = v => hv (h ▸ hw))]
    rw [List.foldl_cons, ih ht, List.map_congr_left hread]
    simp

theorem get_stepP (dflt : Nest β) (last : List V) (hl : last.Nodup) (s : List (List V × Nest β)) (p k : List V) :
    Py.dictGet (stepP dflt last s p) k
      = if k == p then some (.node (last.map fun v => (Py.dictGet s (p ++ [v])).getD dflt))
        else if k ∈ last.map (p ++ [·]) then none else Py.dictGet s k := by
  simp only [stepP, popAll_eq dflt p last hl, Py.get_set, Py.get_eraseAll]

theorem get_stepP_other (dflt : Nest β) (last : List V) (hl : last.Nodup) (s : List (List V × Nest β)) (p k : List V)
    (h1 : k ≠ p) (h2 : ∀ v, k ≠ p ++ [v]) : Py.dictGet (stepP dflt last s p) k = Py.dictGet s k := by
  rw [get_stepP dflt last hl, if_neg (by simpa using h1), if_neg]
  simp only [List.mem_map, not_exists, not_and]
  exact fun v _ h => h2 v h.symm

/-- the simulation relation between the translated loop and `Core.loop`: on the combinations of the arguments still to
be folded, the dict holds what the model's lookup function holds -/
def Agree (vals : List (List V)) (s : List (List V × Nest β)) (store : List V → Option (Nest β)) : Prop :=
  ∀ p ∈ product vals, Py.dictGet s p = store p

/-- the lookup function `Core.loop` goes on with after folding the argument `last` -/
def nextStore (dflt : Nest β) (last : List V) (store : List V → Option (Nest β)) : List V → Option (Nest β) :=
  fun p => some (.node (last.map fun v => (store (p ++ [v])).getD dflt))

/-- **one round of the `while` loop is one step of `Core.loop`**: every `p` of the remaining product now maps to the
tuple of what was stored (or the default) at `p + (v,)`, `v` running over the popped argument's values -/
theorem body_agree (dflt : Nest β) (init : List (List V)) (last : List V) (hnd : ∀ vs ∈ init, vs.Nodup) (hl : last.Nodup)
    (s : List (List V × Nest β)) (store : List V → Option (Nest β)) (h : Agree (init ++ [last]) s store) :
    Agree init (body dflt init last s) (nextStore dflt last store) := by
  -- the `for` loop has its own invariant, over the combinations `todo` still to visit: one not yet visited has its
  -- entries `p + (v,)` as at the start, a visited one has its tuple
  suffices inv : ∀ todo : List (List V), todo.Nodup → (∀ q ∈ todo, q ∈ product init) → ∀ t : List (List V × Nest β),
      (∀ p ∈ todo, ∀ v ∈ last, Py.dictGet t (p ++ [v]) = store (p ++ [v])) →
      (∀ p ∈ product init, p ∉ todo → Py.dictGet t p = nextStore dflt last store p) →
      Agree init (todo.foldl (stepP dflt last) t) (nextStore dflt last store) from
    inv _ (product_nodup init hnd) (fun _ hq => hq) s (fun p hp v hv => h _ (mem_product_snoc init last p v hp hv))
      (fun p hp hp' => absurd hp hp')
  intro todo
  induction todo with
  | nil => exact fun _ _ t _ hdone p hp => hdone p hp List.not_mem_nil
  | cons q todo ih =>
    intro hnd' hsub t htodo hdone
    obtain ⟨hq, hnd'⟩ := List.nodup_cons.mp hnd'
    -- the visit to `q` touches `q` and `q + (w,)`: for another combination `p`, of the same length, neither `p` nor `p + (v,)`
    have hlen : ∀ p ∈ product init, p.length = q.length := fun p hp =>
      (length_of_mem_product init p hp).trans (length_of_mem_product init q (hsub q List.mem_cons_self)).symm
    have hne : ∀ (a b : List V) (v : V), a.length = b.length → a ≠ b ++ [v] := fun a b v hab e => by simp [e] at hab
    refine ih hnd' (fun r hr => hsub r (List.mem_cons_of_mem _ hr)) _ ?_ ?_
    · -- `p` still to visit: its entries `p + (v,)` are none of `q`, `q + (w,)`
      intro p hp v hv
      have hpi : p ∈ product init := hsub p (List.mem_cons_of_mem _ hp)
      have h1 : p ++ [v] ≠ q := (hne q p v (hlen p hpi).symm).symm
      have h2 : ∀ w, p ++ [v] ≠ q ++ [w] := fun w e => by
        have hpq : p = q := List.append_inj_left' e rfl
        exact hq (hpq ▸ hp)
      rw [get_stepP_other dflt last hl t q _ h1 h2]
      exact htodo p (List.mem_cons_of_mem _ hp) v hv
    · -- `p` visited: it is `q`, visited now, or was visited before and is left alone
      intro p hp hp'
      by_cases hpq : p = q
      · subst hpq
        rw [get_stepP dflt last hl, if_pos (by simp), nextStore]
        congr 2
        exact List.map_congr_left fun v hv => by rw [htodo p List.mem_cons_self v hv]
      · rw [get_stepP_other dflt last hl t q p hpq (hne p q · (hlen p hp))]
        exact hdone p hp (by simp [hpq, hp'])

/-- **the `while` loop is the model's `Core.loop`**: a dict store that agrees with a lookup function `store` on the
combinations still to be folded is taken, round by round, to what `Core.loop` makes of `store` (after the first round
every remaining combination has an entry, so `()` is found at the end) -/
theorem while_loop (dflt : Nest β) (rvals : List (List V)) (hnd : ∀ vs ∈ rvals, vs.Nodup) (s : List (List V × Nest β))
    (store : List V → Option (Nest β)) (hs : Agree rvals.reverse s store) :
    Py.dictGet (Py.whilePopLastAux (body dflt) rvals s) []
      = if rvals = [] then store [] else some (loop dflt rvals store) := by
  induction rvals generalizing s store with
  | nil => exact hs [] (by simp [product])
  | cons last rinit ih =>
    rw [List.reverse_cons] at hs
    have hinit : ∀ vs ∈ rinit.reverse, vs.Nodup := fun vs h => hnd vs (List.mem_cons_of_mem _ (List.mem_reverse.mp h))
    have hround := body_agree dflt rinit.reverse last hinit (hnd last List.mem_cons_self) s store hs
    rw [Py.whilePopLastAux, ih (fun vs h => hnd vs (List.mem_cons_of_mem _ h)) _ _ hround]
    cases rinit <;> simp [loop, nextStore]

/-- what the translated `_unflatten` returns, the loop body being `body`: both its texts (`Gen.unflatten`,
`Gen.Default.unflatten`) unfold to the left-hand side -/
theorem popLoop_refines (store : List (List V × Nest β)) (vals : List (List V)) (dflt : Nest β)
    (hnd : ∀ vs ∈ vals, vs.Nodup) (h0 : vals = [] → ∃ x, Py.dictGet store [] = some x) :
    (match Py.dictGet (Py.whilePopLast vals store (body dflt)) [] with
      | none => .error .keyError
      | some x => .ok x) = (.ok (Core.unflatten dflt vals (Py.dictGet store)) : Except PyErr (Nest β)) := by
  rw [Py.whilePopLast, while_loop dflt vals.reverse (by simpa using hnd) store (Py.dictGet store) (fun _ _ => rfl),
    Core.unflatten]
  by_cases hv : vals = []
  · obtain ⟨x, hx⟩ := h0 hv
    subst hv
    simp [hx, loop]
  · simp [hv]

/-- **`_unflatten`**: the translated loop (pop the last argument, for every remaining combination replace the entries
`p + (v,)` by the tuple of them, missing ones standing as `all_nan`; finally `store.pop(())`) returns the nested tuple
of the hand-written `Core.unflatten` over the dict's lookup function — provided no argument lists a value twice (a
popped key is gone: a repeated value would read the default the second time) and, when there is no argument at all,
the store has the entry `()` -/
theorem unflatten_refines (store : List (List V × Nest β)) (vals : List (List V)) (dflt : Nest β)
    (hnd : ∀ vs ∈ vals, vs.Nodup) (h0 : vals = [] → ∃ x, Py.dictGet store [] = some x) :
    Gen.unflatten store vals dflt = .ok (Core.unflatten dflt vals (Py.dictGet store)) := by
  simp only [Gen.unflatten, Gen.Default.unflatten]
  exact popLoop_refines store vals dflt hnd h0

/-- the same for the last-good text (a `process_results` that fell back calls it) -/
theorem unflatten_refines_default (store : List (List V × Nest β)) (vals : List (List V)) (dflt : Nest β)
    (hnd : ∀ vs ∈ vals, vs.Nodup) (h0 : vals = [] → ∃ x, Py.dictGet store [] = some x) :
    Gen.Default.unflatten store vals dflt = .ok (Core.unflatten dflt vals (Py.dictGet store)) := by
  simp only [Gen.Default.unflatten]
  exact popLoop_refines store vals dflt hnd h0

end unflat

/-- the dict `process_results` builds, `{loc: leaf(r)}`, read as a function, is the model's result table -/
theorem dictGet_table (f : List Nat → β) (locs : List (List Nat)) :
    Py.dictGet (Py.dictMapVal Nest.leaf (Py.dictOfList (locs.zip (locs.map f))))
      = fun p => (lookup (locs.zip (locs.map f)) p).map Nest.leaf := by
  funext p
  rw [lookup_zip_map, ← List.map_prod_left_eq_zip, Py.get_mapVal, Py.dictOfList, Py.get_ofList_fn]
  by_cases h : p ∈ locs <;> simp [h, dictGet_nil]

/-- the zero-argument corner: `_unflatten` pops `()` at once, and finds it when `()` is a location -/
theorem dictGet_table_nil (f : List Nat → β) (locs : List (List Nat)) (h : [] ∈ locs) :
    ∃ x, Py.dictGet (Py.dictMapVal Nest.leaf (Py.dictOfList (locs.zip (locs.map f)))) [] = some x :=
  ⟨.leaf (f []), by simp only [dictGet_table, lookup_zip_map, if_pos h]; rfl⟩

/-- `flat=True`: `tuple(r)` -/
theorem coreProcess_flat (pyNone : β) (nl : β → β) (cg : Bool) (locs cv acv : List (List Nat)) (r : List β) :
    Gen.coreProcess pyNone nl true cg locs cv acv r = .ok (.flat r) := by
  simp only [Gen.coreProcess, Gen.Default.coreProcess, Bool.not_false, Bool.not_true, Bool.false_eq_true, if_true, if_false]

/-- **no cases**: `_unflatten(dict(zip(locs, r)), combo_values)` is the model's `processNested` (no slot is missing,
so neither Python's `None` default nor the model's placeholder shows) -/
theorem coreProcess_grid (pyNone : β) (nl : β → β) (s : Sweep) (hg : s.caseRows = none)
    (hnd : ∀ vs ∈ s.comboVals, vs.Nodup) (f : List Nat → β) (ph : β) (acv : List (List Nat)) :
    Gen.coreProcess pyNone nl false false s.locs s.comboVals acv (s.locs.map f)
      = .ok (.nested (processNested s (s.locs.map f) ph)) := by
  simp only [Gen.coreProcess, Gen.Default.coreProcess, Bool.not_false, Bool.not_true, Bool.false_eq_true, if_true, if_false]
  -- the translated `process_results` calls `Gen.unflatten`, its last-good text `Gen.Default.unflatten`: whichever `rw`
  -- finds its callee leaves the same two goals, the main one and the side condition of the zero-argument corner
  first | rw [unflatten_refines _ _ _ hnd] | rw [unflatten_refines_default _ _ _ hnd]
  · rw [dictGet_table, processNested_eq, coords_grid s hg, unflatten_eq]
    show Except.ok (CoreOut.nested _) = _
    congr 2
    apply nest_congr
    intro p hp
    rw [lookup_zip_map, if_pos (locs_grid s hg ▸ hp)]
    rfl
  · exact fun h0 => dictGet_table_nil f s.locs (by rw [locs_grid s hg, h0]; simp [product])

theorem caseCoords_nodup (s : Sweep) : ∀ vs ∈ s.caseCoords, vs.Nodup := by
  intro vs h
  unfold Sweep.caseCoords at h
  split at h
  · simp at h
  · simp only [List.mem_map] at h
    obtain ⟨j, _, rfl⟩ := h
    exact (sortedSet_spec _).2.imp (fun h => Nat.ne_of_lt h)

/-- **cases**: `all_nan = nan_like_result(r[0])` and `_unflatten(dict(zip(locs, r)), all_combo_values, all_nan)` is the
model's `processNested` with the placeholder made from the first result -/
theorem coreProcess_cases (pyNone : β) (nl : β → β) (s : Sweep) (rows : List (List Nat)) (hr : s.caseRows = some rows)
    (hnd : ∀ vs ∈ s.comboVals, vs.Nodup) (f : List Nat → β) (first : List Nat) (rest : List (List Nat))
    (hne : s.locs = first :: rest) (hc : s.coords = [] → [] ∈ s.locs) :
    Gen.coreProcess pyNone nl false true s.locs s.comboVals s.coords (s.locs.map f)
      = .ok (.nested (processNested s (s.locs.map f) (nl (f first)))) := by
  have hnd' : ∀ vs ∈ s.coords, vs.Nodup := by
    intro vs h
    rcases List.mem_append.mp h with h | h
    · exact caseCoords_nodup s vs h
    · exact hnd vs h
  have h0 : (s.locs.map f)[0]? = some (f first) := by rw [hne]; rfl
  simp only [Gen.coreProcess, Gen.Default.coreProcess, Bool.not_false, Bool.not_true, Bool.false_eq_true, if_true, if_false, h0]
  first | rw [unflatten_refines _ _ _ hnd'] | rw [unflatten_refines_default _ _ _ hnd']
  · simp only [dictGet_table, processNested, hr]
  · exact fun h0 => dictGet_table_nil f s.locs (hc h0)

/-- the value of a translated helper that cannot raise -/
def okOr {ε γ : Type} (x : Except ε (List γ)) : List γ := match x with | .ok r => r | .error _ => []

/-- the translated slices composed BY HAND the way `combo_runner_core` composes them (`Gen.coreGlue`: nothing in between
rebinds what flows from one to the next, and `process_results(results_linear)` is what is returned), for a swept
function `g` of keyword arguments and one output.  The pool computes `g` too (`submit = g`, `_get_result = id`).
`s.coords` — the sorted union of the case coordinates — is the hand-written part that remains. -/
def translated (g : List (String × Nat) → β) (nl : β → β) (pyNone : β) (leR : β → β → Bool) (s : Sweep)
    (consts : List (String × Nat)) (st : Strategy) (flat : Bool) :
    Except PyErr (List (List (String × Nat)) × CoreOut β) :=
  match Gen.coreEnum s.caseArgs s.comboArgs (s.caseRows.getD [[]]) s.comboVals consts with
  | .error e => .error e
  | .ok (_, locs, settings) =>
    match Gen.coreRun leR ((stShuffle st).getD []) (stShuffle st).isSome flat (stExec st) false
        (fun l => okOr (Gen.coreRunSeq g l)) (fun l => okOr (Gen.coreRunExec g id l)) settings with
    | .error e => .error e
    | .ok (ran, results) =>
      match Gen.coreProcess pyNone nl flat s.caseRows.isSome locs s.comboVals s.coords results with
      | .error e => .error e
      | .ok out => .ok (ran, out)

theorem coreGlue_holds : Gen.coreGlue = true := by
  simp only [Gen.coreGlue, Gen.Default.coreGlue]

/-- the composed translated slices in closed form: the keyword arguments in the order run, and the function's values —
flat, or nested with the placeholder made from the first of them.  `hne`: on empty results Python raises (`zip(*[])` under
`shuffle`, `r[0]` with cases); `hnd`: a popped key is gone, so a repeated value would leave the default in its second slot;
`hc`: the zero-argument corner: with no coordinate at all `_unflatten` pops `()` at once, so `()` must be a location
(DESIGN §7). -/
theorem translated_eq (g : List (String × Nat) → β) (nl : β → β) (pyNone : β) (leR : β → β → Bool) (s : Sweep)
    (consts : List (String × Nat)) (st : Strategy) (flat : Bool)
    (hov : s.overlap = false) (hwf : st.WF s.locs.length) (hnd : ∀ vs ∈ s.comboVals, vs.Nodup)
    (first : List Nat) (rest : List (List Nat)) (hne : s.locs = first :: rest) (hc : s.coords = [] → [] ∈ s.locs) :
    translated g nl pyNone leR s consts st flat
      = .ok ((ranUnder st s.locs []).map (mkKws s.fnArgs consts),
             if flat then .flat (s.locs.map fun loc => g (mkKws s.fnArgs consts loc))
             else .nested (processNested s (s.locs.map fun loc => g (mkKws s.fnArgs consts loc))
               (nl (g (mkKws s.fnArgs consts first))))) := by
  have hseq : (fun l => okOr (Gen.coreRunSeq g l)) = List.map g := by
    funext l; rw [coreRunSeq_refines]; rfl
  have hexe : (fun l => okOr (Gen.coreRunExec g id l)) = List.map g := by
    funext l; rw [coreRunExec_refines]; rfl
  have hrun := coreRun_strategy leR g (s.locs.map (mkKws s.fnArgs consts)) (mkKws s.fnArgs consts []) st flat
    (by simpa using hwf) (by simp [hne])
  rw [ranUnder_map, List.map_map] at hrun
  simp only [translated, coreEnum_refines, hov, Bool.false_eq_true, if_false, hseq, hexe, hrun]
  cases flat with
  | true => simp only [coreProcess_flat, if_true]; rfl
  | false =>
    cases hr : s.caseRows with
    | none =>
      have := coreProcess_grid pyNone nl s hr hnd (fun loc => g (mkKws s.fnArgs consts loc))
        (nl (g (mkKws s.fnArgs consts first))) s.coords
      simp only [Option.isSome_none, Function.comp_def, this, Bool.false_eq_true, if_false]
    | some rows =>
      have := coreProcess_cases pyNone nl s rows hr hnd (fun loc => g (mkKws s.fnArgs consts loc)) first rest hne hc
      simp only [Option.isSome_some, Function.comp_def, this, Bool.false_eq_true, if_false]

/-- **the model is the translated source**: on a well-formed request with something to run, the composed translated
slices succeed; the list of keyword arguments handed to the runner is the model's enumeration (permuted by `σ` under
`shuffle`), each being `dict(zip(fn_args, loc))` + constants; and what is returned is what `Core.core` returns for the
function `loc ↦ g(kwargs of loc)` — flat or nested -/
theorem translated_eq_core (g : List (String × Nat) → β) (nl : β → β) (pyNone : β) (leR : β → β → Bool) (s : Sweep)
    (consts : List (String × Nat)) (st : Strategy) (flat : Bool)
    (hov : s.overlap = false) (hwf : st.WF s.locs.length) (hnd : ∀ vs ∈ s.comboVals, vs.Nodup)
    (first : List Nat) (rest : List (List Nat)) (hne : s.locs = first :: rest) (hc : s.coords = [] → [] ∈ s.locs) :
    ∃ r, core (fun loc => g (mkKws s.fnArgs consts loc)) nl s st = .ok r ∧ r.log ~ s.locs ∧
      translated g nl pyNone leR s consts st flat
        = .ok ((match stShuffle st with | none => s.locs | some σ => applyPerm σ s.locs []).map (mkKws s.fnArgs consts),
               if flat then .flat r.flat else .nested r.nested) := by
  refine ⟨_, core_eq (fun loc => g (mkKws s.fnArgs consts loc)) nl s st hov hwf, runLinear_log _ s.locs st hwf, ?_⟩
  rw [translated_eq g nl pyNone leR s consts st flat hov hwf hnd first rest hne hc, hne]
  unfold ranUnder
  cases stShuffle st <;> rfl

/-- **C01 on the translated source (own slot)**: for a grid without repeated values, under every strategy, the nested
tuple returned by the composed translated slices holds at index path `idx` the value of `g` on the keyword arguments
of precisely the combination `idx` selects; and the runner was handed a permutation of all combinations -/
theorem c01_slot_src (g : List (String × Nat) → β) (nl : β → β) (pyNone : β) (leR : β → β → Bool) (s : Sweep)
    (consts : List (String × Nat)) (st : Strategy)
    (hg : s.caseRows = none) (hov : s.overlap = false) (hwf : st.WF s.locs.length) (hnd : ∀ vs ∈ s.comboVals, vs.Nodup)
    (idx p : List Nat) (hp : pick s.comboVals idx = some p) :
    ∃ ran out, translated g nl pyNone leR s consts st false = .ok (ran, .nested out) ∧
      ran ~ (product s.comboVals).map (mkKws s.fnArgs consts) ∧
      out.get idx = some (.leaf (g (mkKws s.fnArgs consts p))) := by
  have hmem : p ∈ s.locs := locs_grid s hg ▸ mem_product_of_pick _ _ _ hp
  obtain ⟨first, rest, hne⟩ := List.exists_cons_of_ne_nil (List.ne_nil_of_mem hmem)
  have hc : s.coords = [] → [] ∈ s.locs := by
    intro h
    rw [locs_grid s hg, ← coords_grid s hg, h]
    simp [product]
  exact ⟨_, _, translated_eq g nl pyNone leR s consts st false hov hwf hnd first rest hne hc,
    locs_grid s hg ▸ (ranUnder_perm st s.locs [] hwf).map _,
    processNested_get_grid s (fun loc => g (mkKws s.fnArgs consts loc)) _ idx p hg hp⟩

/-- **C02 on the translated source (own slot or placeholder)** -/
theorem c02_slot_src [DecidableEq β] (g : List (String × Nat) → β) (nl : β → β) (pyNone : β) (leR : β → β → Bool)
    (s : Sweep) (consts : List (String × Nat)) (st : Strategy) (rows : List (List Nat)) (hr : s.caseRows = some rows)
    (hov : s.overlap = false) (hwf : st.WF s.locs.length) (hnd : ∀ vs ∈ s.comboVals, vs.Nodup)
    (first : List Nat) (rest : List (List Nat)) (hne : s.locs = first :: rest) (hc : s.coords = [] → [] ∈ s.locs)
    (idx p : List Nat) (hp : pick s.coords idx = some p) :
    ∃ ran out, translated g nl pyNone leR s consts st false = .ok (ran, .nested out) ∧
      ran ~ (rows.flatMap fun cp => (product s.comboVals).map (cp ++ ·)).map (mkKws s.fnArgs consts) ∧
      out.get idx = some (.leaf (if p ∈ s.locs then g (mkKws s.fnArgs consts p)
                                 else nl (g (mkKws s.fnArgs consts first)))) :=
  ⟨_, _, translated_eq g nl pyNone leR s consts st false hov hwf hnd first rest hne hc,
    locs_cases s rows hr ▸ (ranUnder_perm st s.locs [] hwf).map _,
    processNested_get s (fun loc => g (mkKws s.fnArgs consts loc)) _ idx p hp⟩

/-! Non-vacuity, on the running example (`Core.exSweep`, `Core.exCases`). -/
example : (translated (β := Nat) (fun kws => (kws.map Prod.snd).foldl (fun a x => 10 * a + x) 0) id 0 (fun _ _ => true)
    exSweep [] .seq true).toOption.map (·.2)
      = some (.flat [0, 1, 2, 10, 11, 12]) := by rfl
example : ∀ vs ∈ exSweep.comboVals, vs.Nodup := by decide
example : exCases.locs = [2, 0, 0] :: [[2, 0, 1], [0, 1, 0], [0, 1, 1]] ∧ exCases.coords ≠ [] := by decide
example : (Gen.unflatten [([0], Nest.leaf 7), ([2], .leaf 9)] [[0, 1, 2]] (.leaf 0)).toOption.bind (Nest.get [1])
    = some (.leaf 0) := by rfl

end CoreRefine
