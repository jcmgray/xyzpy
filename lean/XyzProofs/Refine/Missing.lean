import XyzModel.Missing
import XyzModel.Gen.Extracted
import XyzProofs.Props.C13
import XyzProofs.Lemmas.PyDict
import XyzProofs.Lemmas.PyLoop
/-!
# C13 — the hand-written missing-data model IS the translated source

`Gen.isCaseMissing`, `Gen.findMissing`, `Gen.parseIntoCases` are the bodies of `is_case_missing`, `find_missing_cases`,
`parse_into_cases` (xyzpy/gen/case_runner.py), translated on every run over abstract dataset operations
`o : Gen.MissOps D M R V` (`harness/anchors_missing.py`).  Some theorems hold for ARBITRARY operations; at the model's instance
`Missing.ops` (datasets) / `Missing.daOps` (a DataArray: `to_array` raises `AttributeError`) the translated functions are the
model's, and the C13 statements are restated on them.
-/
namespace Missing
open DS Gen

/-! ### theorems about the translated `is_case_missing`, for arbitrary dataset operations -/

section AnyOpsIsCaseMissing
variable {D M R V : Type} (o : MissOps D M R V)

/-- a selection that raises `KeyError` means "missing", whatever the method (even an unknown one) -/
theorem isCaseMissing_keyError (ds : D) (s : List (String × V)) (method : String)
    (h : o.sel ds s = .error .keyError) : Gen.isCaseMissing o ds s method = .ok true := by
  simp only [Gen.isCaseMissing, Gen.Default.isCaseMissing, h]
  simp

/-- any other failure of the selection is handed on -/
theorem isCaseMissing_sel_error (ds : D) (s : List (String × V)) (method : String) (e : MErr)
    (h : o.sel ds s = .error e) (he : e ≠ .keyError) : Gen.isCaseMissing o ds s method = .error e := by
  simp only [Gen.isCaseMissing, Gen.Default.isCaseMissing, h]
  simp [he]

/-- an unknown method is a `ValueError` (once the selection went through) -/
theorem isCaseMissing_unknown_method (ds x : D) (s : List (String × V)) (method : String)
    (h : o.sel ds s = .ok x) (h1 : method ≠ "isnull") (h2 : method ≠ "isfinite") :
    Gen.isCaseMissing o ds s method = .error .valueError := by
  simp only [Gen.isCaseMissing, Gen.Default.isCaseMissing, h]
  simp [h1, h2]

def maskOf (method : String) (x : D) : M := if method = "isnull" then o.isnull x else o.notFinite x

/-- **all data across all variables**: for a Dataset the answer is the conjunction, over the variables, of "this
variable is entirely null in the selection" -/
theorem isCaseMissing_all_vars (ds x : D) (s : List (String × V)) (method : String) (arr : List Bool)
    (h : o.sel ds s = .ok x) (hm : method = "isnull" ∨ method = "isfinite")
    (ha : o.toArray (o.allM (maskOf o method x)) = .ok arr) :
    Gen.isCaseMissing o ds s method = .ok (arr.all id) := by
  simp only [Gen.isCaseMissing, Gen.Default.isCaseMissing, h]
  rcases hm with rfl | rfl <;> simp [maskOf] at ha <;> simp [ha]

/-- for a DataArray (`to_array` raises `AttributeError`) the answer is the reduced array's own value -/
theorem isCaseMissing_dataarray (ds x : D) (s : List (String × V)) (method : String)
    (h : o.sel ds s = .ok x) (hm : method = "isnull" ∨ method = "isfinite")
    (ha : o.toArray (o.allM (maskOf o method x)) = .error .attributeError) :
    Gen.isCaseMissing o ds s method = .ok (o.item (o.allM (maskOf o method x))) := by
  simp only [Gen.isCaseMissing, Gen.Default.isCaseMissing, h]
  rcases hm with rfl | rfl <;> simp [maskOf] at ha <;> simp [maskOf, ha]

end AnyOpsIsCaseMissing

def methodStr : Method → String
  | .isnull => "isnull"
  | .isfinite => "isfinite"

/-- per variable, per stored (non-null) cell: does it count as null under the method?  (cells that are not stored are
null under both methods and do not change a conjunction) -/
def nullMask (m : Method) (d : Dataset) : List (List Bool) := d.vars.map fun e => e.2.cells.map fun c => !present m c.2

def ops : MissOps Dataset (List (List Bool)) (List Bool) Coord where
  sel d s := match d.sel s with | none => .error .keyError | some x => .ok x
  isnull := nullMask .isnull
  notFinite := nullMask .isfinite
  allM mk := mk.map fun l => l.all id
  toArray r := .ok r
  item r := r.all id
  dims d := d.coords.map (·.1)
  coordValues d k := d.coordsOf k

/-- the same object seen as a DataArray: there is no `to_array` -/
def daOps : MissOps Dataset (List (List Bool)) (List Bool) Coord :=
  { ops with toArray := fun _ => .error .attributeError }

theorem all_nullMask (m : Method) (x : Dataset) :
    ((nullMask m x).all fun l => l.all id) = x.vars.all fun e => e.2.cells.all fun c => !present m c.2 := by
  simp [nullMask, List.all_map, Function.comp_def]

/-- **`Missing.isCaseMissing` is the translated `is_case_missing`** at the model's operations -/
theorem isCaseMissing_refines (d : Dataset) (s : Pt) (m : Method) :
    Gen.isCaseMissing ops d s (methodStr m) = .ok (isCaseMissing d s m) := by
  cases hs : d.sel s with
  | none =>
    rw [isCaseMissing_keyError ops d s _ (by simp [ops, hs])]
    simp [isCaseMissing, hs]
  | some x =>
    have hm : methodStr m = "isnull" ∨ methodStr m = "isfinite" := by cases m <;> simp [methodStr]
    rw [isCaseMissing_all_vars ops d x s _ _ (by simp [ops, hs]) hm rfl]
    cases m <;> simp [isCaseMissing, hs, maskOf, methodStr, ops, all_nullMask]

/-- … and also when the object is a DataArray (one variable) -/
theorem isCaseMissing_refines_da (d : Dataset) (s : Pt) (m : Method) :
    Gen.isCaseMissing daOps d s (methodStr m) = .ok (isCaseMissing d s m) := by
  cases hs : d.sel s with
  | none =>
    rw [isCaseMissing_keyError daOps d s _ (by simp [daOps, ops, hs])]
    simp [isCaseMissing, hs]
  | some x =>
    have hm : methodStr m = "isnull" ∨ methodStr m = "isfinite" := by cases m <;> simp [methodStr]
    rw [isCaseMissing_dataarray daOps d x s _ (by simp [daOps, ops, hs]) hm rfl]
    cases m <;> simp [isCaseMissing, hs, maskOf, methodStr, daOps, ops, all_nullMask]

/-- the same for the committed last-good text.  `findMissing_refines` and `parseIntoCases_refines` have this and
`isCaseMissing_refines` in their `simp` set, so whichever callee the caller's text mentions (the last-good one when the
caller fell back, the translated one otherwise) is rewritten to the model; unlike `same_callee` (Lemmas/TwoMode.lean) this
asks nothing about the two texts being the same function, only what each of them is at `ops` -/
theorem isCaseMissing_refines_default (d : Dataset) (s : Pt) (m : Method) :
    Gen.Default.isCaseMissing ops d s (methodStr m) = .ok (isCaseMissing d s m) := by
  cases hs : d.sel s <;> cases m <;>
    simp [Gen.Default.isCaseMissing, isCaseMissing, hs, methodStr, ops, all_nullMask]

/-- **`{**case, **dict(extra)}` is the model's `mergeCase`** when `extra` has distinct keys (it is a `dict`) -/
theorem mergeCase_eq (c E : Pt) (hE : (E.map (·.1)).Nodup) : Py.dictUpdate c (Py.dictOfList E) = mergeCase c E := by
  rw [Py.dictOfList_of_nodup E hE, Py.dictUpdate_eq E hE c]
  simp only [mergeCase, alookup_eq_get]

/-- the ignored names as the model takes them -/
def ignoreList : IgnoreArg → List String
  | .none => []
  | .str s => [s]
  | .coll l => l

section AnyOpsFindMissing
variable {D M R V : Type} (o : MissOps D M R V)

/-- whatever the operations: if `find_missing_cases` answers, the argument names are the dataset's dimensions that are
not ignored, in the dataset's order (a bare string is ONE name) -/
theorem findMissing_fnArgs (ds : D) (ig : IgnoreArg) (method : String) (pb : Bool) (fa : List String) (cs : List (List V))
    (h : Gen.findMissing o ds ig method pb = .ok (fa, cs)) :
    fa = (o.dims ds).filter fun k => !(ignoreList ig).contains k := by
  simp only [Gen.findMissing, Gen.Default.findMissing] at h
  -- by the spelling of `ignore_dims` (a collection: empty or not, which the source tests), then by whether the loop over
  -- the grid raised: had it raised, the call had not answered
  rcases ig with _ | s | (_ | ⟨a, l⟩) <;>
    simp only [ignoreList, List.isEmpty_nil, List.isEmpty_cons, Bool.not_true, Bool.not_false, Bool.false_eq_true,
      if_true, if_false] at h ⊢ <;>
    generalize List.foldlM (m := Except MErr) _ _ _ = looped at h <;>
    cases looped with
    | error e => cases h
    | ok found =>
      cases h
      simp

end AnyOpsFindMissing

/-- **`Missing.findMissingCases` is the translated `find_missing_cases`** at the model's operations, for every spelling
of `ignore_dims`; the dataset's dimension names are distinct -/
theorem findMissing_refines (d : Dataset) (ig : IgnoreArg) (m : Method) (pb : Bool) (hn : (d.coords.map (·.1)).Nodup) :
    Gen.findMissing ops d ig (methodStr m) pb = .ok (findMissingCases d (ignoreList ig) m) := by
  have hdims : ops.dims d = d.coords.map (·.1) := rfl
  have hcoord : ∀ k, ops.coordValues d k = d.coordsOf k := fun _ => rfl
  -- the loop, however the source spells "append the case if it is missing", filters the grid
  have hloop : ∀ (names : List String) (F : List (List Coord) → List Coord → Except MErr (List (List Coord)))
      (L : List (List Coord)),
      (∀ acc c, F acc c = .ok (if isCaseMissing d (names.zip c) m then acc ++ [c] else acc)) →
      List.foldlM F [] L = .ok (L.filter fun c => isCaseMissing d (names.zip c) m) := by
    intro names F L hF
    have hF' : F = fun acc c =>
        if (fun c => isCaseMissing d (names.zip c) m) c = true then .ok (acc ++ [id c]) else .ok acc := by
      funext acc c
      rw [hF]
      split <;> rfl
    rw [hF', PyLoop.foldlM_append_ite]
    simp
  -- the model's grid in the source's terms: the names are filtered, the axes are looked up by name
  rw [show findMissingCases d (ignoreList ig) m = ((gridDims d (ignoreList ig)).map (·.1),
      (Core.product ((gridDims d (ignoreList ig)).map (·.2))).filter fun c =>
        isCaseMissing d (((gridDims d (ignoreList ig)).map (·.1)).zip c) m) from rfl,
    gridDims_snd d _ hn, gridDims_fst]
  have hnd : ((d.coords.map (·.1)).filter fun k => !(ignoreList ig).contains k).Nodup := hn.sublist List.filter_sublist
  -- by the spelling of `ignore_dims` (a collection: empty or not, which the source tests)
  rcases ig with _ | s | (_ | ⟨a, l⟩) <;>
    simp only [Gen.findMissing, Gen.Default.findMissing, ignoreList, hdims, hcoord, List.map_id', List.isEmpty_nil,
      List.isEmpty_cons, Bool.not_true, Bool.not_false, Bool.false_eq_true, if_true, if_false] at hnd ⊢ <;>
    generalize List.filter _ (d.coords.map (·.1)) = names at hnd ⊢ <;>
    rw [hloop names]
  all_goals
    -- what one round of the loop does: `dict(zip(names, case))` of distinct names is the zip, and `is_case_missing` is the model's
    intro acc c
    rw [Py.dictOfList_of_nodup _ (Py.zip_keys_nodup _ c hnd)]
    simp only [isCaseMissing_refines, isCaseMissing_refines_default]
    cases isCaseMissing d (names.zip c) m <;> rfl

section AnyOpsParseIntoCases
variable {D M R V : Type} (o : MissOps D M R V)

/-- without a dataset nothing is filtered and `is_case_missing` is never asked: every case is crossed with every
combination, cases outermost, the combination's values laid over the case's -/
theorem parseIntoCases_no_ds (combos : Option (List (String × List V))) (cases : Option (List (List (String × V))))
    (method : String) :
    Gen.parseIntoCases o combos cases none method
      = .ok ((cases.getD [[]]).flatMap fun c =>
          (Core.product ((combos.getD []).map (·.2))).map fun s =>
            Py.dictUpdate c (Py.dictOfList (List.zip ((combos.getD []).map (·.1)) s))) := by
  cases combos <;> cases cases <;>
    simp [Gen.parseIntoCases, Gen.Default.parseIntoCases, PyLoop.foldlM_append_flat, ← List.map_eq_flatMap]

end AnyOpsParseIntoCases

/-- **`Missing.parseIntoCases` is the translated `parse_into_cases`** at the model's operations; `combos` is a dict
(distinct keys) -/
theorem parseIntoCases_refines (combos : Option (List (String × List Coord))) (cases : Option (List Pt))
    (d : Option Dataset) (m : Method) (hk : ((combos.getD []).map (·.1)).Nodup) :
    Gen.parseIntoCases ops combos cases d (methodStr m) = .ok (parseIntoCases (combos.getD []) cases d m) := by
  have hmerge : ∀ (c : Pt) (s : List Coord),
      Py.dictUpdate c (Py.dictOfList (List.zip ((combos.getD []).map (·.1)) s)) = mergeCase c (List.zip ((combos.getD []).map (·.1)) s) :=
    fun c s => mergeCase_eq c _ (Py.zip_keys_nodup _ s hk)
  cases d with
  | none =>
    rw [parseIntoCases_no_ds]
    simp only [hmerge, parseIntoCases, requested]
    exact congrArg Except.ok (List.filter_eq_self.mpr fun _ _ => rfl).symm
  | some ds =>
    -- the two nested loops become `flatMap` of `filter` of `map`; the last `simp` commutes `filter` with `flatMap` and `map`
    cases combos <;> cases cases <;>
      simp only [Option.getD_none, Option.getD_some, List.map_nil] at hmerge ⊢ <;>
      simp only [Gen.parseIntoCases, Gen.Default.parseIntoCases, isCaseMissing_refines, isCaseMissing_refines_default,
        List.map_nil, hmerge, PyLoop.foldlM_append_ite, PyLoop.foldlM_append_flat, List.nil_append, parseIntoCases, requested,
        Option.getD_none, Option.getD_some] <;>
      simp [List.filter_flatMap, List.filter_map, Function.comp_def]

/-- **reported ⇔ no data**, for the translated `is_case_missing` -/
theorem c13_is_src (d : Dataset) (loc : Pt) (m : Method) :
    Gen.isCaseMissing ops d loc (methodStr m) = .ok true ↔ (d.hasLabels loc = false ∨ EntirelyNull d loc m) := by
  rw [isCaseMissing_refines, ← c13_iff]
  simp

/-- **the translated `find_missing_cases` reports exactly the grid locations without data**, in grid order -/
theorem c13_find_src (d : Dataset) (ig : IgnoreArg) (m : Method) (pb : Bool) (hn : (d.coords.map (·.1)).Nodup) :
    ∃ cs, Gen.findMissing ops d ig (methodStr m) pb = .ok ((gridDims d (ignoreList ig)).map (·.1), cs) ∧
      cs.Sublist (Core.product ((gridDims d (ignoreList ig)).map (·.2))) ∧
      ∀ c, c ∈ cs ↔ c ∈ Core.product ((gridDims d (ignoreList ig)).map (·.2)) ∧
        EntirelyNull d (((gridDims d (ignoreList ig)).map (·.1)).zip c) m := by
  refine ⟨(findMissingCases d (ignoreList ig) m).2, ?_, (c13_order_nodup d (ignoreList ig) m).2.1, ?_⟩
  · rw [findMissing_refines d ig m pb hn]; rfl
  · intro c
    rw [c13_find_iff]
    refine and_congr_right fun hc => ?_
    rw [c13_iff, hasLabels_of_grid d (ignoreList ig) hn c hc]
    simp

/-- **the translated `parse_into_cases` keeps exactly the requested settings without data** -/
theorem c13_parse_src (combos : List (String × List Coord)) (cases : Option (List Pt)) (d : Option Dataset) (m : Method)
    (hk : (combos.map (·.1)).Nodup) :
    ∃ out, Gen.parseIntoCases ops (some combos) cases d (methodStr m) = .ok out ∧
      out.Sublist (requested combos (cases.getD [[]])) ∧
      ∀ nc, nc ∈ out ↔ nc ∈ requested combos (cases.getD [[]]) ∧
        ∀ ds, d = some ds → (ds.hasLabels nc = false ∨ EntirelyNull ds nc m) := by
  refine ⟨parseIntoCases combos cases d m, ?_, (c13_order_nodup {} [] m).2.2.2 combos cases d, ?_⟩
  · exact parseIntoCases_refines (some combos) cases d m hk
  · intro nc
    simp only [c13_parse_iff, c13_iff]

/-- the default of `method` in the three signatures is `'isnull'` -/
theorem missingDefaultMethod_isnull :
    Gen.missingDefaultMethod = methodStr .isnull ∧ Gen.missingEntryDefaults = [methodStr .isnull, methodStr .isnull] := by
  simp only [Gen.missingDefaultMethod, Gen.Default.missingDefaultMethod, Gen.missingEntryDefaults,
    Gen.Default.missingEntryDefaults, methodStr, and_self]

/-! ### Non-vacuity (on the example dataset of `Props/C13.lean`) -/

example : Gen.findMissing ops exDs (.str "t") "isfinite" false = .ok (["a"], [[2]]) := by
  rw [show "isfinite" = methodStr .isfinite from rfl, findMissing_refines _ _ _ _ (by decide)]; exact congrArg _ (by decide)
example : Gen.findMissing ops exDs .none "isnull" false = .ok (["a", "t"], [[1, 1], [2, 0]]) := by
  rw [show "isnull" = methodStr .isnull from rfl, findMissing_refines _ _ _ _ (by decide)]; exact congrArg _ (by decide)
example : Gen.isCaseMissing ops exDs [("a", 3)] "isnull" = .ok true := by
  rw [show "isnull" = methodStr .isnull from rfl, isCaseMissing_refines]; exact congrArg _ (by decide)
example : Gen.isCaseMissing ops exDs [("a", 1)] "nosuch" = .error .valueError :=
  isCaseMissing_unknown_method ops exDs _ _ _ rfl (by decide) (by decide)
example : Gen.isCaseMissing ops exDs [("a", 3)] "nosuch" = .ok true :=
  isCaseMissing_keyError ops exDs _ _ rfl
example : Gen.parseIntoCases ops (some [("a", [1, 2, 3])]) (some [[("t", 0)], [("a", 7), ("t", 1)]]) (some exDs) "isnull"
    = .ok [[("t", 0), ("a", 2)], [("t", 0), ("a", 3)], [("a", 1), ("t", 1)], [("a", 3), ("t", 1)]] := by
  rw [show "isnull" = methodStr .isnull from rfl, parseIntoCases_refines _ _ _ _ (by decide)]; exact congrArg _ (by decide)
example : mergeCase [("a", 7), ("t", 1)] [("a", 1)] = [("a", 1), ("t", 1)] := by decide

end Missing
