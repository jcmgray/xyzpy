import XyzProofs.Props.C08
import XyzProofs.Lemmas.PyLoop
/-!
`Gen.checkBadSk` is the body of `Crop.check_bad(delete_bad)` translated on every run (harness/anchors_checkbad.py) to a
function over an abstract state and a record of operations `o : Gen.CbOps S E` — list the numbers of the files matching
a glob, read a file and take the length of what it holds, remove a file — with the `for` loop as `Gen.cbLoop`.  What is
said about removals holds for arbitrary operations; `cbOps` is the model's directory as an instance.
-/
namespace CheckBadSk
open Gen

variable {S E : Type}

/-- is the result of batch `i` (whose batch holds `lb` entries) bad in state `s`: unreadable, or of another length -/
def cbResultBad (o : CbOps S E) (s : S) (i : Nat) (lb : Int) : Bool :=
  match o.readLen s (.result i) with
  | .ok lr => decide (lr ≠ lb)
  | .error _ => true

/-- is result `i` bad in state `s`: its batch can be read, and the result cannot, or has another length -/
def cbIsBad (o : CbOps S E) (s : S) (i : Nat) : Bool :=
  match o.readLen s (.batch i) with
  | .error _ => false
  | .ok lb => cbResultBad o s i lb

/-- one turn of the loop -/
def cbBody (o : CbOps S E) (deleteBad : Bool) (i : Nat) (st : S) (bad : List Nat) : (S × List Nat) × Option E :=
  match o.readLen st (.batch i) with
  | .error e => ((st, []), some e)
  | .ok lb =>
    if cbResultBad o st i lb then
      (if deleteBad then cbBind (o.remove st (.result i)) [] (fun st => ((st, bad ++ [i]), none))
       else ((st, bad ++ [i]), none))
    else ((st, bad), none)

def checkBadSpec (o : CbOps S E) (deleteBad : Bool) (st : S) : (S × List Nat) × Option E :=
  cbLoop (cbBody o deleteBad) (o.list st .results) st []

/-- `check_bad`, whatever the operations do: for each listed result file `i`, in listing order: read batch file `i` (an
error ends the call); try to read result file `i`; the result is bad iff it could not be read or its length differs from
the batch's; a bad one is removed (only with `delete_bad`) and reported -/
theorem checkBadSk_eq_spec (o : CbOps S E) (deleteBad : Bool) (st : S) :
    Gen.checkBadSk o deleteBad st = checkBadSpec o deleteBad st := by
  simp only [Gen.checkBadSk, Gen.Default.checkBadSk, checkBadSpec]
  congr 1
  funext i st bad
  simp only [cbBody, cbResultBad]
  cases o.readLen st (.batch i) with
  | error e => rfl
  | ok lb =>
    -- `generalize` fails on what was read (the `Decidable` instance of the test mentions it): give it a name by an equation
    obtain ⟨r, hr⟩ : ∃ r, o.readLen st (.result i) = r := ⟨_, rfl⟩
    cases r <;> cases deleteBad <;> simp [hr]

theorem cbLoop_inv {A : Type} (body : Nat → S → A → (S × A) × Option E) (P : S → A → Prop) (l : List Nat)
    (hbody : ∀ i ∈ l, ∀ s a, P s a → P (body i s a).1.1 (body i s a).1.2) :
    ∀ s a, P s a → P (cbLoop body l s a).1.1 (cbLoop body l s a).1.2 := by
  induction l with
  | nil => intro s a h; exact h
  | cons i is ih =>
    intro s a h
    have hb := hbody i (by simp) s a h
    have ih' := ih (fun j hj => hbody j (by simp [hj]))
    unfold cbLoop
    rcases hr : body i s a with ⟨⟨s', a'⟩, _ | e⟩
    · rw [hr] at hb; exact ih' s' a' hb
    · rw [hr] at hb; exact hb

/-- the operations with a log of every removal attempted: which file, in which state -/
def logOps (o : CbOps S E) : CbOps (S × List (CbFile × S)) E where
  list := fun s k => o.list s.1 k
  readLen := fun s f => o.readLen s.1 f
  remove := fun s f => (((o.remove s.1 f).1, s.2 ++ [(f, s.1)]), (o.remove s.1 f).2)

theorem cbBody_bad (o : CbOps S E) (deleteBad : Bool) (i : Nat) (st : S) (bad : List Nat) :
    (cbBody o deleteBad i st bad).1.2 = bad ∨ (cbBody o deleteBad i st bad).1.2 = bad ++ [i] ∨
      (cbBody o deleteBad i st bad).1.2 = [] := by
  unfold cbBody
  split
  · exact Or.inr (Or.inr rfl)
  · split
    · split
      · rcases o.remove st (.result i) with ⟨s', _ | e⟩
        · exact Or.inr (Or.inl rfl)
        · exact Or.inr (Or.inr rfl)
      · exact Or.inr (Or.inl rfl)
    · exact Or.inl rfl

theorem cbBody_log (o : CbOps S E) (deleteBad : Bool) (i : Nat) (s : S × List (CbFile × S)) (bad : List Nat) :
    (cbBody (logOps o) deleteBad i s bad).1.1.2 = s.2 ∨
      (deleteBad = true ∧ cbIsBad o s.1 i = true ∧ (cbBody (logOps o) deleteBad i s bad).1.1.2 = s.2 ++ [(.result i, s.1)]) := by
  unfold cbBody
  split
  · exact Or.inl rfl
  · rename_i lb h1
    have hbad : cbResultBad (logOps o) s i lb = cbIsBad o s.1 i := by
      have h1' : o.readLen s.1 (.batch i) = .ok lb := h1
      simp [cbIsBad, h1', cbResultBad, logOps]
    rw [hbad]
    split
    · rename_i hb
      split
      · rename_i hd
        refine Or.inr ⟨hd, hb, ?_⟩
        rcases hr : (o.remove s.1 (.result i)).2 with _ | e <;> simp [logOps, cbBind, hr]
      · exact Or.inl rfl
    · exact Or.inl rfl

/-- **`check_bad` removes only bad results**: every removal the translated body attempts, whatever the operations do and
wherever one fails, is of a result file `i` that the listing named and that was bad in the state at that moment
(unreadable, or of another length than batch `i`, which could be read) — never a good result, never a batch file -/
theorem cb_removed_are_bad (o : CbOps S E) (deleteBad : Bool) (st : S) :
    ∀ x ∈ (Gen.checkBadSk (logOps o) deleteBad (st, [])).1.1.2,
      ∃ i ∈ o.list st .results, x.1 = .result i ∧ cbIsBad o x.2 i = true := by
  rw [checkBadSk_eq_spec]
  refine cbLoop_inv (cbBody (logOps o) deleteBad)
    (fun s _ => ∀ x ∈ s.2, ∃ i ∈ o.list st .results, x.1 = .result i ∧ cbIsBad o x.2 i = true) _ ?_ (st, []) [] (by simp)
  intro i hi s a hP
  rcases cbBody_log o deleteBad i s a with h | ⟨_, hbad, h⟩ <;> rw [h]
  · exact hP
  · exact List.forall_mem_append.mpr ⟨hP, List.forall_mem_singleton.mpr ⟨i, hi, rfl, hbad⟩⟩

/-- with `delete_bad=False` nothing is removed -/
theorem cb_no_delete_no_change (o : CbOps S E) (st : S) :
    (Gen.checkBadSk (logOps o) false (st, [])).1.1.2 = [] := by
  rw [checkBadSk_eq_spec]
  refine cbLoop_inv (cbBody (logOps o) false) (fun s _ => s.2 = []) _ ?_ (st, []) [] rfl
  intro i _ s a hP
  rcases cbBody_log o false i s a with h | ⟨hd, _⟩
  · rw [h]; exact hP
  · cases hd

/-- only numbers the listing named are reported -/
theorem cb_reported_listed (o : CbOps S E) (deleteBad : Bool) (st : S) :
    ∀ i ∈ (Gen.checkBadSk o deleteBad st).1.2, i ∈ o.list st .results := by
  rw [checkBadSk_eq_spec]
  refine cbLoop_inv (cbBody o deleteBad) (fun _ bad => ∀ i ∈ bad, i ∈ o.list st .results) _ ?_ st [] (by simp)
  intro i hi s a hP
  rcases cbBody_bad o deleteBad i s a with h | h | h <;> rw [h]
  · exact hP
  · exact List.forall_mem_append.mpr ⟨hP, List.forall_mem_singleton.mpr hi⟩
  · simp

end CheckBadSk

namespace Crop
open Gen CheckBadSk

variable {β : Type}

/-- the operations of `Gen.CbOps` on the model's directory: a listing is the key list of the files of that kind; reading
gives the length of the stored list (a missing file, or an unreadable result, raises); removing erases the entry -/
def cbOps : CbOps (Dir β) Err where
  list := fun d k => match k with
    | .results => keys d.results
    | .batches => keys d.batches
    | .other => []
  readLen := fun d f => match f with
    | .batch i => (match lookup d.batches i with
        | some b => .ok (b.length : Int)
        | none => .error .missingFile)
    | .result i => (match lookup d.results i with
        | some (.good rs) => .ok (rs.length : Int)
        | some .bad => .error .badFile
        | none => .error .missingFile)
    | .other => .error .missingFile
  remove := fun d f => match f with
    | .result i => if (lookup d.results i).isSome then ({ d with results := erase d.results i }, none) else (d, some .missingFile)
    | .batch i => if (lookup d.batches i).isSome then ({ d with batches := erase d.batches i }, none) else (d, some .missingFile)
    | .other => (d, some .missingFile)

theorem cbBody_cbOps (d : Dir β) (R : List (Nat × ResFile β)) (bad : List Nat) (kv : Nat × ResFile β) (b : List (List Nat))
    (hb : lookup d.batches kv.1 = some b) (hkv : lookup R kv.1 = some kv.2) :
    cbBody cbOps true kv.1 { d with results := R } bad =
      if badEntry d.batches kv then (({ d with results := erase R kv.1 }, bad ++ [kv.1]), none)
      else (({ d with results := R }, bad), none) := by
  obtain ⟨k, v⟩ := kv
  -- both sides read batch `k` (`hb`) and result `k` (`hkv`) and compare the lengths, or find the result unreadable
  cases v <;> simp [cbBody, cbResultBad, cbOps, badEntry, hb, hkv, Int.natCast_inj]

theorem cbLoop_refines (d : Dir β) (l R : List (Nat × ResFile β)) (bad0 : List Nat)
    (hnd : (keys l).Nodup) (hR : ∀ kv ∈ l, lookup R kv.1 = some kv.2) :
    match l.foldl (checkBadStep d) (.ok ({ d with results := R }, bad0)) with
    | .ok (d', bad) => cbLoop (cbBody cbOps true) (keys l) { d with results := R } bad0 = ((d', bad), none)
    | .error e => (cbLoop (cbBody cbOps true) (keys l) { d with results := R } bad0).2 = some e := by
  induction l generalizing R bad0 with
  | nil => simp [keys, cbLoop]
  | cons kv l ih =>
    simp only [keys, List.map_cons, List.nodup_cons, List.mem_map, not_exists, not_and] at hnd
    obtain ⟨hRkv, hR'⟩ := List.forall_mem_cons.mp hR
    simp only [List.foldl_cons, keys, List.map_cons]
    unfold cbLoop
    cases hb : lookup d.batches kv.1 with
    | none =>
      have hstep : checkBadStep d (.ok ({ d with results := R }, bad0)) kv = .error .missingFile := by
        simp [checkBadStep, hb]
      rw [hstep, PyLoop.foldl_error _ (fun _ _ => rfl)]
      simp [cbBody, cbOps, hb]
    | some b =>
      rw [checkBadStep_ok d _ _ kv b hb, cbBody_cbOps d R bad0 kv b hb hRkv]
      by_cases hbad : badEntry d.batches kv = true
      · -- the entry is erased; the later ones have other keys and are still found
        simp only [hbad, if_true]
        refine ih (erase R kv.1) (bad0 ++ [kv.1]) hnd.2 fun kv' hkv' => ?_
        rw [lookup_erase, if_neg (hnd.1 kv' hkv')]
        exact hR' kv' hkv'
      · simp only [hbad]
        exact ih R bad0 hnd.2 hR'

/-- **`Crop.check_bad()` as translated, at the model's directory, is `Crop.checkBad`** (result files listed once each):
the same directory afterwards, the same ids reported in the same order, the same error -/
theorem checkBadSk_refines (d : Dir β) (hnd : (keys d.results).Nodup) :
    match checkBad d with
    | .ok (d', bad) => Gen.checkBadSk cbOps true d = ((d', bad), none)
    | .error e => (Gen.checkBadSk cbOps true d).2 = some e := by
  rw [checkBadSk_eq_spec, checkBad_eq_fold]
  exact cbLoop_refines d d.results d.results [] hnd (lookup_of_mem_nodup d.results hnd)

/-- **`c08_check_bad` for the translated body**: on a well-formed directory the translated `check_bad` never fails,
reports exactly the ids whose stored result is unreadable or of the wrong length (in listing order), removes exactly
those result files, leaves every batch file and the crop information alone, and keeps the directory well formed -/
theorem c08_check_bad_sk (d : Dir β) (B : Nat) (hwf : WF d B) :
    ∃ d' bad, Gen.checkBadSk cbOps true d = ((d', bad), none) ∧
      bad = keys (d.results.filter (badEntry d.batches)) ∧
      d'.results = d.results.filter (fun kv => !badEntry d.batches kv) ∧
      d'.batches = d.batches ∧ d'.info = d.info ∧ WF d' B := by
  obtain ⟨d', bad, hcb, hrest⟩ := c08_check_bad d B hwf
  have h := checkBadSk_refines d hwf.rnodup
  rw [hcb] at h
  exact ⟨d', bad, h, hrest⟩

/-! Non-vacuity: batch 1's result is short, batch 3's unreadable, batch 2's fine (the example of `c08_check_bad`). -/
def exDir : Dir Nat :=
  { batches := [(1, [[0], [1]]), (2, [[2], [3]]), (3, [[4]])], results := [(1, .good [7]), (3, .bad), (2, .good [8, 9])] }
example : Gen.checkBadSk cbOps true exDir
    = (({ exDir with results := [(2, .good [8, 9])] }, [1, 3]), none) :=
  checkBadSk_refines exDir (by decide)

/-- …and the removals attempted on it are exactly result files 1 and 3 -/
example : (Gen.checkBadSk (CheckBadSk.logOps cbOps) true (exDir, [])).1.1.2.map (·.1) = [.result 1, .result 3] := by
  decide

end Crop
