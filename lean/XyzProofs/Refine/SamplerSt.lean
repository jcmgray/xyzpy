import XyzModel.Sampler
import XyzModel.Gen.Extracted
import XyzProofs.Lemmas.StoreSkel
/-!
# The Sampler's storage methods: the hand-written model IS the translated source (state skeletons)

`Gen.smLoadFull`, `Gen.smSaveFull`, `Gen.smAddDf` are regenerated on every run from the bodies of
`Sampler.load_full_df`, `save_full_df`, `add_df` (harness/anchors_st.py).  The operations get their meaning on the
model's state (table in memory, table in the file) extended by the temporary file the writer uses, and `Sampler.addDf`
is shown to be the translated `add_df` at that instance.
-/
namespace Sampler
open Gen

/-- the model's state plus the content of the temporary file (`none`: no such file) -/
abbrev SS (β : Type) := St β × Option (List (Row β))

/-- the operations on the model's state.  Assumptions of the instance: no permission bits (a file that exists is
writable), engines are not distinguished (`G = Unit`), reading a file that is not there is the only I/O error.
`merge` and `rmtree` (the Harvester's) are not used by the Sampler's methods and are dummies; of `replace` only
"temporary over data file" occurs. -/
def ops (β : Type) : StoreOps (SS β) (List (Row β)) Unit Unit where
  raised := fun _ => ()
  selfEngine := fun _ => ()
  isZarr := fun _ => false
  memIsNone := fun s => s.1.mem.isNone
  mem := fun s => s.1.mem.getD []
  setMem := fun s d => ({ s.1 with mem := some d }, s.2)
  accessW := fun s r => match r with | .tmp _ => s.2.isSome | _ => s.1.disk.isSome
  isFile := fun s r => match r with | .tmp _ => s.2.isSome | _ => s.1.disk.isSome
  pathExists := fun s r => match r with | .tmp _ => s.2.isSome | _ => s.1.disk.isSome
  loadData := fun s r _ =>
    match (match r with | .tmp _ => s.2 | _ => s.1.disk) with
    | some t => .ok t
    | none => .error ()
  saveData := fun s d r _ => match r with
    | .tmp _ => ((s.1, some d), none)
    | _ => (({ s.1 with disk := some d }, s.2), none)
  afterSave := fun _ d => d
  replace := fun s a b =>
    match a, b with
    | .tmp _, .tmp _ => (s, none)
    | .tmp _, _ => (match s.2 with
        | some t => (({ s.1 with disk := some t }, none), none)
        | none => (s, some ()))
    | _, .tmp _ => (match s.1.disk with
        | some t => (({ s.1 with disk := none }, some t), none)
        | none => (s, some ()))
    | _, _ => (s, none)
  remove := fun s r => match r with
    | .tmp _ => (match s.2 with | some _ => ((s.1, none), none) | none => (s, some ()))
    | _ => (match s.1.disk with | some _ => (({ s.1 with disk := none }, s.2), none) | none => (s, some ()))
  rmtree := fun s _ => (s, none)
  copy := id
  merge := fun _ _ b => .ok b
  concat := fun a b => a ++ b

theorem ops_memIsNone {β} (s : SS β) : (ops β).memIsNone s = s.1.mem.isNone := rfl
theorem ops_mem {β} (s : SS β) : (ops β).mem s = s.1.mem.getD [] := rfl
theorem ops_copy {β} (d : List (Row β)) : (ops β).copy d = d := rfl
theorem ops_concat {β} (a b : List (Row β)) : (ops β).concat a b = a ++ b := rfl

/-- `load_full_df()` as translated: the file's table, when there is a file, replaces what is in memory -/
theorem smLoadFull_spec {β} (s : St β) (tmp : Option (List (Row β))) :
    Gen.smLoadFull (ops β) none (s, tmp) =
      (({ s with mem := match s.disk with | some t => some t | none => s.mem }, tmp), none) := by
  obtain ⟨m, d, o⟩ := s
  cases d <;> rfl

/-- `save_full_df(new)` as translated: written aside, moved over the data file, memory set — no temporary left -/
theorem smSaveFull_spec {β} (s : St β) (d : List (Row β)) :
    Gen.smSaveFull (ops β) true d none (s, none) = (({ s with mem := some d, disk := some d }, none), none) := by
  rfl

/-- **`Sampler.add_df(new)` (synced) as translated, at the model's instance, is `Sampler.addDf`** -/
theorem smAddDf_refines {β} (s : St β) (new : List (Row β)) :
    Gen.smAddDf (ops β) false true new none (s, none) = ((addDf s new, none), none) := by
  -- whether there is a file and whether something is in memory decide every test of the three bodies
  obtain ⟨m, d, o⟩ := s
  cases d <;> cases m <;> rfl

/-- without `sync` nothing is read or written: the new rows are appended to what is in memory -/
theorem smAddDf_unsynced {β} (s : St β) (new : List (Row β)) :
    Gen.smAddDf (ops β) false false new none (s, none) =
      (({ s with mem := some (match s.mem with | some t => t ++ new | none => new) }, none), none) := by
  obtain ⟨m, d, o⟩ := s
  cases m <;> rfl

/-- file operations do not touch what is in memory (the same three fields as `Harvest.FileOpsKeepMem`, which lives in a
module this one does not import) -/
structure FileOpsKeepMem {S D G E : Type} (o : StoreOps S D G E) : Prop where
  save : ∀ st d r g, o.mem (o.saveData st d r g).1 = o.mem st ∧ o.memIsNone (o.saveData st d r g).1 = o.memIsNone st
  replace : ∀ st a b, o.mem (o.replace st a b).1 = o.mem st ∧ o.memIsNone (o.replace st a b).1 = o.memIsNone st
  remove : ∀ st r, o.mem (o.remove st r).1 = o.mem st ∧ o.memIsNone (o.remove st r).1 = o.memIsNone st

theorem smSaveFull_eq_swapIn {S D G E : Type} (o : StoreOps S D G E) (d : D) (g : Option G) (st : S) :
    Gen.smSaveFull o true d g st = swapIn o d (if g.isNone then some (o.selfEngine st) else g) .bare st := by
  -- by cases on how the writer and the move end and on whether the temporary is still there, both sides compute: it does
  -- not matter how the body spells the test of its `finally`
  simp only [Gen.smSaveFull, Gen.Default.smSaveFull, swapIn, if_true]
  generalize (if g.isNone = true then some (o.selfEngine st) else g) = eng
  rcases h1 : o.saveData st d (.tmp .bare) eng with ⟨s1, _ | e1⟩
  · rcases h2 : o.replace s1 (.tmp .bare) .bare with ⟨s2, _ | e2⟩ <;>
      cases h3 : o.pathExists s2 (.tmp .bare) <;>
      simp only [h1, h2, h3, stBind_pure, stBind_ok, stBind_err, stFinally_ok, stFinally_err, Bool.false_eq_true, if_false,
        if_true, Bool.not_true, Bool.not_false, Option.getD_none]
  · cases h3 : o.pathExists s1 (.tmp .bare) <;>
      simp only [h1, h3, stBind_pure, stBind_err, stFinally_err, Bool.false_eq_true, if_false, if_true, Bool.not_true,
        Bool.not_false, Option.getD_none]

/-- **memory is set last** (any operations): if `save_full_df(new)` raises, the Sampler's in-memory table is what it was
before the call — the table shown never runs ahead of the file (the defect repaired in `c6f07c9`) -/
theorem smSaveFull_error_keeps_mem {S D G E : Type} (o : StoreOps S D G E) (hk : FileOpsKeepMem o) (d : D) (g : Option G)
    (st : S) (e : E) (herr : (Gen.smSaveFull o true d g st).2 = some e) :
    o.mem (Gen.smSaveFull o true d g st).1 = o.mem st ∧
    o.memIsNone (Gen.smSaveFull o true d g st).1 = o.memIsNone st := by
  rw [smSaveFull_eq_swapIn] at herr ⊢
  exact swapIn_error_keeps_mem o hk.save hk.replace hk.remove _ _ _ st e herr

theorem ops_keep_mem (β : Type) : FileOpsKeepMem (ops β) := by
  -- every alternative of the three operations returns `s.1` itself or `s.1` with another `disk`
  constructor
  · intro st d r g
    cases r <;> exact ⟨rfl, rfl⟩
  · intro st a b
    dsimp only [ops]
    repeat' split
    all_goals exact ⟨rfl, rfl⟩
  · intro st r
    dsimp only [ops]
    split <;> split <;> exact ⟨rfl, rfl⟩

-- non-vacuity: a concrete synced append on a file that already holds a row
example : Gen.smAddDf (ops Nat) false true [⟨[1], [10]⟩] none (({ mem := none, disk := some [⟨[0], [5]⟩] } : St Nat), none)
    = ((({ mem := some [⟨[0], [5]⟩, ⟨[1], [10]⟩], disk := some [⟨[0], [5]⟩, ⟨[1], [10]⟩] } : St Nat), none), none) := by
  rw [smAddDf_refines]; rfl

end Sampler
