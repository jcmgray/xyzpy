import XyzProofs.Lemmas.Fmt
import XyzProofs.Lemmas.FmtTotal
import XyzProofs.Lemmas.TwoMode
/-!
# C20 — the hand-written model `Fmt.format` is the translated body of `format_number_with_error`

`Gen.fmtNumberWithError` is the whole body of the function in xyzpy/utils.py, translated statement by statement on every
run (harness/anchors_numfn.py): the exponent rule, the hide rule *with its branch structure*, which values are rescaled and
by which powers of ten, the suffix, the mantissa / exponent split, the digit count, and the shape of the returned
f-string.  Floats are an opaque type and their decimal formatting is a set of named abstract operations (parameters
`sciSplit intOf dropDot ltAbsDiv scale`).

Here the operations are instantiated with the model's primitives (`Src.*`), for an input `i : Inp`:
* floats are *names* (`V`): `x`, `err`, and what `scale` makes of them — the name records the total power of ten, so that
  `x / 10**head / 10**(x_exponent - head)` is the datum `i.axs` exactly when the two exponents add up to the function's
  own `x_exponent` (an edit of either exponent changes the name, and the proof below fails): `val i (.sx e)` is
  `i.axs` only if `kOf i = some e`, and the exact quotient `i.ax / 10^e` for any other `e`;
* `f"{v:.{p}e}".split("e")` is `Fmt.sci (value of v) p` (mantissa digits as an integer, decimal exponent);
* `err < abs(x / 10)` is the datum `i.lt` — for these operands and this divisor only;
* the returned f-string is read back into the structured `Out` by `outOf` (shape `digits(mm)` or `digits(mm)e±kk`).
-/
namespace Fmt
namespace Src

/-- the floats the function handles, by name -/
inductive V where
  | x | err
  | sx (e : ℤ)      -- `x / 10**a / 10**b`, `a + b = e`
  | serr (e : ℤ)    -- `err / 10**a / 10**b`
deriving DecidableEq

def scale : V → ℤ → ℤ → V
  | .x, a, b => .sx (a + b)
  | .err, a, b => .serr (a + b)
  | .sx e, a, b => .sx (e + a + b)
  | .serr e, a, b => .serr (e + a + b)

/-- the exact absolute value of a named float: scaled by the function's own exponent it is the datum handed to the model
(`axs`, `errs`: the floats Python computes), scaled by anything else the exact quotient -/
def val (i : Inp) : V → ℚ
  | .x => i.ax
  | .err => i.err
  | .sx e => if kOf i = some e then i.axs else i.ax / pow10 e
  | .serr e => if kOf i = some e then i.errs else i.err / pow10 e

/-- does the printed number carry the sign of `x`? -/
def negOf (i : Inp) : V → Bool
  | .x => i.neg
  | .sx _ => i.neg
  | _ => false

/-- `f"{v:.{p}e}".split("e")`: (mantissa digits as an integer, decimal exponent); `0.0…e+00` for zero -/
def sciSplit (i : Inp) (v : V) (p : ℕ) : ℤ × ℤ :=
  if val i v = 0 then (0, 0) else (sci (val i v) p).getD (0, 0)

/-- `a < abs(b / n)`: the float comparison is a datum for `err < abs(x / 10)`; exact otherwise -/
def ltAbsDiv (i : Inp) (a b : V) (n : ℤ) : Bool :=
  if a = .err ∧ b = .x ∧ n = 10 then i.lt else decide (val i a < val i b / (n : ℚ))

/-- the translated function on the model's primitives (in the order of its parameters: `sciSplit`, `intOf := id`,
`dropDot := Int.toNat`, `ltAbsDiv`, `scale`, then `x` and `err`) -/
def pieces (i : Inp) : List (Gen.Piece V ℕ) :=
  Gen.fmtNumberWithError (sciSplit i) id Int.toNat (ltAbsDiv i) scale .x .err

/-- reading the returned f-string: `{v:.{d}f}({m})` optionally followed by `e{k:+03d}` -/
def outOf (i : Inp) : List (Gen.Piece V ℕ) → Option Out
  | [.fixed v d, .lit .lparen, .str m, .lit .rparen] =>
      some { neg := negOf i v, n := (fixed (val i v) d.toNat).toNat, d := d.toNat, m := m, k := none }
  | [.fixed v d, .lit .lparen, .str m, .lit .rparen, .lit .e, .intP03 k] =>
      some { neg := negOf i v, n := (fixed (val i v) d.toNat).toNat, d := d.toNat, m := m, k := some k }
  | _ => none

/-- `format_number_with_error` as translated from the source, on the model's primitives -/
def format (i : Inp) : Option Out := outOf i (pieces i)

end Src

theorem fmtNumberWithError_eq {F MS ES M : Type} :
    @Gen.fmtNumberWithError F MS ES M = @Gen.Default.fmtNumberWithError F MS ES M := by
  same_gen [Gen.fmtNumberWithError, Gen.Default.fmtNumberWithError]

open Src in
/-- **refinement**: for every value, every positive error and positive rescaled error, the hand-written model is the
translated source -/
theorem format_refines (i : Inp) (herr : 0 < i.err) (hax : 0 ≤ i.ax) (herrs : 0 < i.errs) :
    Src.format i = format i := by
  obtain ⟨m6, e6, hse⟩ := c20_sci_total _ herr 6
  have hxe : ∃ xe, expOf i.ax = some xe ∧ (sciSplit i .x 6).2 = xe := by
    unfold expOf sciSplit val
    by_cases h0 : i.ax = 0
    · exact ⟨0, by simp [h0], by simp [h0]⟩
    · obtain ⟨mx, ex, hsx⟩ := c20_sci_total _ (lt_of_le_of_ne hax (Ne.symm h0)) 6
      exact ⟨ex, by simp [h0, hsx], by simp [h0, hsx]⟩
  obtain ⟨xe, hxe1, hxe2⟩ := hxe
  have hee : (sciSplit i .err 6).2 = e6 := by
    simp [sciSplit, val, herr.ne', hse]
  have hk : kOf i = some (Gen.fmtExp xe e6) := by
    simp [kOf, hxe1, hse]
  unfold Src.format pieces
  rw [fmtNumberWithError_eq]
  simp only [Gen.Default.fmtNumberWithError, id, hxe2, hee]
  rw [fmtExp_eq] at hk
  generalize max xe (e6 + 1) = k at hk ⊢
  -- the source's hide rule, as the body spells it, is the extracted `Gen.fmtHide`
  have hhide : ((decide (k = 0) || decide (k = -1)) || (decide (k = 1) && ltAbsDiv i V.err V.x 10)) = hide i k := by
    rw [hide, fmtHide_eq, show ltAbsDiv i V.err V.x 10 = i.lt by simp [ltAbsDiv]]
  rw [hhide]
  cases hh : hide i k
  · -- the exponent is shown: both are rescaled by 10**k, in two steps
    obtain ⟨m, E, hs⟩ := c20_sci_total _ herrs 1
    have hss : sciSplit i (V.serr k) 1 = (m, E) := by simp [sciSplit, val, hk, herrs.ne', hs]
    -- what the model answers ...
    have hmodel : Fmt.format i =
        some ⟨i.neg, (fixed i.axs (Gen.fmtDigits E).toNat).toNat, (Gen.fmtDigits E).toNat, m.toNat, some k⟩ := by
      simp [Fmt.format, hk, shownErr, shownX, hh, hs]
    rw [hmodel]
    -- ... is what the returned f-string reads back to
    simp [hss, outOf, val, negOf, scale, hk, fmtDigits_eq]
  · -- the exponent is hidden: x and err are formatted as they are
    obtain ⟨m, E, hs⟩ := c20_sci_total _ herr 1
    have hss : sciSplit i V.err 1 = (m, E) := by simp [sciSplit, val, herr.ne', hs]
    have hmodel : Fmt.format i =
        some ⟨i.neg, (fixed i.ax (Gen.fmtDigits E).toNat).toNat, (Gen.fmtDigits E).toNat, m.toNat, none⟩ := by
      simp [Fmt.format, hk, shownErr, shownX, hh, hs]
    rw [hmodel]
    simp [hss, outOf, val, negOf, fmtDigits_eq]
end Fmt
