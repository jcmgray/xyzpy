import XyzModel.Crop
import XyzProofs.Lemmas.PyLoop
/-!
# The Reaper: the hand-written stream (`Crop.reapStep` / `Crop.reapStream` / the length checks of `Crop.reorder`) is the
# translated source

`Gen.reaperFiles`, `Gen.reaperLoad`, `Gen.reaperWaitToLoad`, `Gen.reaperLoadFn`, `Gen.reaperCall`, `Gen.reaperExit` are
translated from `Reaper.__init__` (the generator `files`, the closures `_load` and `wait_to_load`, what is chained),
`Reaper.__call__` and `Reaper.__exit__` on every run (harness/anchors_reaper.py).  They are functions over abstract
directory operations; `Reaper.isFileOf` / `readResultOf` / `readBatchOf` answer those operations from the model's
directory `Crop.Dir`.

Assumptions stated here, not proved: `Gen.chainNext` / `Gen.chainTuple` are what `next` / `tuple` do on
`itertools.chain.from_iterable(map(load, files))`; the runner calls the Reaper once per setting, one call after the other
(`calls`; C01's subject); Python's `with` runs `__exit__` also when the body raised and an exception raised by
`__exit__` replaces the body's (`session`); a waiting loop is observed for `fuel` polls (`Gen.pollUntil`), and once a
result file exists it is complete (C10 / C11: result names appear by an atomic rename) — so `isFile` / `readResult` are
not indexed by time.

The refinement is up to `toOption`: `Crop.Err` and `PyErr` are not related, only success / failure and the value are
(`reapStep_refines` says `∃ e`).
-/
set_option linter.unusedSimpArgs false
namespace Reaper
open Gen

variable {β γ : Type}

/-! the length of a non-empty sequence compared with 0 / 1, in the spellings a source may use (`== 0`, `< 1`, `<= 0`,
`> 0`, `>= 1`, `!= 0`): the proofs below `simp` with all six so that they hold for each such spelling -/
theorem pos_eq (n : Nat) : ((n : Int) + 1 = 0) = False := eq_false (by omega)
theorem pos_eq' (n : Nat) : (0 = (n : Int) + 1) = False := eq_false (by omega)
theorem pos_lt (n : Nat) : ((n : Int) + 1 < 1) = False := eq_false (by omega)
theorem pos_le (n : Nat) : ((n : Int) + 1 ≤ 0) = False := eq_false (by omega)
theorem pos_gt (n : Nat) : (0 < (n : Int) + 1) = True := eq_true (by omega)
theorem pos_ge (n : Nat) : (1 ≤ (n : Int) + 1) = True := eq_true (by omega)
theorem zero_lt_one_int : ((0 : Int) < 1) = True := by simp

/-! ### sessions: what the runner does with a Reaper -/

/-- `k` calls of the Reaper, one after the other: the values returned, or the first exception; and the chain's state -/
def calls (load : Int → Except PyErr (List β)) : Nat → List β → List Int → Except PyErr (List β) × (List β × List Int)
  | 0, buf, files => (.ok [], (buf, files))
  | k + 1, buf, files =>
    match Gen.reaperCall load buf files with
    | (.error e, st) => (.error e, st)
    | (.ok v, (buf', files')) =>
      match calls load k buf' files' with
      | (.error e, st) => (.error e, st)
      | (.ok vs, st) => (.ok (v :: vs), st)

/-- `Reaper.__exit__` in chain state `(buf, files)`: `tuple(self.results)` is evaluated first (it may raise) -/
def exit (load : Int → Except PyErr (List β)) (buf : List β) (files : List Int) : Except PyErr Unit :=
  match Gen.chainTuple load buf files with
  | .error e => .error e
  | .ok rest => Gen.reaperExit rest

/-- `with Reaper(...) as fn: [fn() for _ in range(n)]` -/
def session (load : Int → Except PyErr (List β)) (files : List Int) (n : Nat) : Except PyErr (List β) :=
  match calls load n [] files with
  | (r, (buf, fl)) =>
    match exit load buf fl with
    | .error e => .error e
    | .ok () => r

/-- what the length of the stream means for a runner that makes `n` calls -/
def lengthGate (n : Nat) (s : List β) : Except PyErr (List β) :=
  if n < s.length then .error .xyzError else if s.length < n then .error .stopIteration else .ok s

/-- what a chain in state `(buf, files)` still holds: the values it yields before it runs out or a file fails to load,
and that failure if there is one.  A `next` and a `tuple` are functions of this pair (`chainNext_view`, `chainTuple_eq`);
of `Gen.chainTuple` alone they are not, since it does not say how many values come before the failure. -/
def chainView (load : Int → Except PyErr (List β)) (buf : List β) : List Int → List β × Option PyErr
  | [] => (buf, none)
  | f :: files =>
    match load f with
    | .error e => (buf, some e)
    | .ok rs => chainView load (buf ++ rs) files

theorem chainView_cons (load : Int → Except PyErr (List β)) (x : β) (buf : List β) (files : List Int) :
    chainView load (x :: buf) files = (x :: (chainView load buf files).1, (chainView load buf files).2) := by
  induction files generalizing buf with
  | nil => rfl
  | cons f files ih => simp only [chainView]; cases load f <;> simp [ih]

theorem chainTuple_eq (load : Int → Except PyErr (List β)) (buf : List β) (files : List Int) :
    Gen.chainTuple load buf files = (chainView load buf files).2.elim (.ok (chainView load buf files).1) .error := by
  induction files generalizing buf with
  | nil => simp [Gen.chainTuple, Gen.chainRest, chainView]
  | cons f files ih =>
    simp only [Gen.chainTuple, Gen.chainRest, chainView] at ih ⊢
    cases load f with
    | error e => simp
    | ok rs =>
      simp only [← ih]
      cases Gen.chainRest load files <;> simp

theorem chainTuple_nil (load : Int → Except PyErr (List β)) (files : List Int) :
    Gen.chainTuple load [] files = Gen.chainRest load files := by
  unfold Gen.chainTuple
  cases Gen.chainRest load files <;> simp

theorem chainView_of_ok (load : Int → Except PyErr (List β)) (files : List Int) (s : List β)
    (hs : Gen.chainRest load files = .ok s) : chainView load [] files = (s, none) := by
  rw [← chainTuple_nil, chainTuple_eq] at hs
  generalize chainView load [] files = v at hs ⊢
  obtain ⟨s', _ | e⟩ := v <;> cases hs
  rfl

/-- **one `next`** on a chain that holds `held` (and the failure `err`) returns the first value and leaves the others; when
there is none it raises the failure, or `StopIteration`, and the chain is exhausted -/
theorem chainNext_view (load : Int → Except PyErr (List β)) (buf : List β) (files : List Int) (held : List β)
    (err : Option PyErr) (hv : chainView load buf files = (held, err)) :
    (Gen.chainNext load buf files).1 = held.head?.elim (.error (err.getD .stopIteration)) .ok ∧
    chainView load (Gen.chainNext load buf files).2.1 (Gen.chainNext load buf files).2.2 =
      if held = [] then ([], none) else (held.tail, err) := by
  induction files generalizing buf with
  | nil =>
    cases hv
    cases held <;> simp [Gen.chainNext, chainView]
  | cons f files ih =>
    cases buf with
    | cons x buf =>
      rw [chainView_cons] at hv
      cases hv
      simp [Gen.chainNext]
    | nil =>
      cases hl : load f with
      | error e =>
        simp only [chainView, hl] at hv
        cases hv
        simp [Gen.chainNext, chainView, hl]
      | ok rs =>
        simp only [chainView, hl, List.nil_append] at hv
        simpa [Gen.chainNext, hl] using ih rs hv

/-- **`k` calls** on a chain that holds `held` (and the failure `err`) -/
theorem calls_view (load : Int → Except PyErr (List β)) (k : Nat) (buf : List β) (files : List Int) (held : List β)
    (err : Option PyErr) (hv : chainView load buf files = (held, err)) :
    (calls load k buf files).1 =
      (if k ≤ held.length then .ok (held.take k) else .error (err.getD .stopIteration)) ∧
    chainView load (calls load k buf files).2.1 (calls load k buf files).2.2 =
      if k ≤ held.length then (held.drop k, err) else ([], none) := by
  induction k generalizing buf files held with
  | zero => simpa [calls] using hv
  | succ k ih =>
    -- the first call is a `next`: name what it returns and the state `(b1, f1)` it leaves
    obtain ⟨h1, h2⟩ := chainNext_view load buf files held err hv
    rcases hn : Gen.chainNext load buf files with ⟨r, b1, f1⟩
    simp only [hn] at h1 h2
    subst h1
    cases held with
    | nil =>
      -- nothing is held: the `next` raises and the chain is exhausted
      simpa [calls, Gen.reaperCall, Gen.Default.reaperCall, hn] using h2
    | cons x s =>
      -- `x` is returned; the other `k` calls start from `(b1, f1)`, which holds `s`
      obtain ⟨i1, i2⟩ := ih b1 f1 s (by simpa using h2)
      rcases hc : calls load k b1 f1 with ⟨r', st'⟩
      simp only [hc] at i1 i2
      subst i1
      by_cases hk : k ≤ s.length <;> simpa [calls, Gen.reaperCall, Gen.Default.reaperCall, hn, hc, hk] using i2

/-- the left-over check of `__exit__`: "Not all results reaped!" iff something is left.  The list is taken apart first, so
that the emptiness test evaluates however the source spells it; the theorems below use this equation only. -/
theorem reaperExit_eq (rest : List β) : Gen.reaperExit rest = if rest = [] then .ok () else .error .xyzError := by
  cases rest <;> simp [Gen.reaperExit, Gen.Default.reaperExit, pos_eq, pos_eq', pos_lt, pos_le, pos_gt, pos_ge]

/-- **the `k`-th call returns element `k` of the concatenation** of what the files contribute -/
theorem reaper_kth_call (load : Int → Except PyErr (List β)) (files : List Int) (s : List β)
    (hs : Gen.chainRest load files = .ok s) (k : Nat) (hk : k < s.length) :
    ∃ buf fl, (calls load k [] files).2 = (buf, fl) ∧ (Gen.reaperCall load buf fl).1 = .ok s[k] := by
  have hv := (calls_view load k [] files s none (chainView_of_ok load files s hs)).2
  rw [if_pos (Nat.le_of_lt hk)] at hv
  have hn := (chainNext_view load _ _ _ _ hv).1
  exact ⟨_, _, rfl, by simpa [Gen.reaperCall, Gen.Default.reaperCall, hk] using hn⟩

/-- **the exit check fails iff fewer calls were made than there are results** -/
theorem reaper_exit_iff (load : Int → Except PyErr (List β)) (files : List Int) (s : List β)
    (hs : Gen.chainRest load files = .ok s) (k : Nat) (hk : k ≤ s.length) :
    ∃ buf fl, (calls load k [] files).2 = (buf, fl) ∧
      exit load buf fl = if k < s.length then .error .xyzError else .ok () := by
  have hv := (calls_view load k [] files s none (chainView_of_ok load files s hs)).2
  rw [if_pos hk] at hv
  refine ⟨_, _, rfl, ?_⟩
  rw [exit, chainTuple_eq, hv]
  by_cases hlt : k < s.length
  · simp [reaperExit_eq, hlt, Nat.not_le.mpr hlt]
  · simp [reaperExit_eq, hlt, Nat.le_of_not_lt hlt]

/-- **a session is the whole stream, gated by its length** (the laziness of the chain does not show): the first
exception of a file that cannot be loaded; "Not all results reaped!" if there are more results than calls;
`StopIteration` if there are fewer; otherwise the stream itself -/
theorem session_eq (load : Int → Except PyErr (List β)) (files : List Int) (n : Nat) :
    session load files n = (Gen.chainRest load files).bind (lengthGate n) := by
  rcases hv : chainView load [] files with ⟨s, err⟩
  obtain ⟨h1, h2⟩ := calls_view load n [] files s err hv
  rw [← chainTuple_nil, chainTuple_eq, hv]
  unfold session
  rcases hc : calls load n [] files with ⟨r, b, f⟩
  simp only [hc] at h1 h2 ⊢
  rw [exit, chainTuple_eq, h2, h1]
  cases err with
  | none =>
    -- every file loads: the calls and the exit check compare `n` with the length of the stream
    rcases Nat.lt_trichotomy n s.length with hn | rfl | hn
    · simp [hn, Nat.le_of_lt hn, Nat.not_le.mpr hn, Except.bind, lengthGate, reaperExit_eq]
    · simp [Except.bind, lengthGate, reaperExit_eq]
    · simp [hn, Nat.not_le.mpr hn, Nat.lt_asymm hn, Except.bind, lengthGate, reaperExit_eq]
  | some e =>
    -- a file fails: a call raises the failure, or the exit check does
    by_cases hn : n ≤ s.length <;> simp [hn, Except.bind, reaperExit_eq]

/-! Non-vacuity: files 1, 2, 3 holding two, two and one results; five calls get them all, four leave one over, six run
out; an unreadable file 2 fails the session whatever the number of calls -/
example : session (fun x => if x = 3 then .ok [x * 10] else .ok [x * 10, x * 10 + 1]) [1, 2, 3] 5 = .ok [10, 11, 20, 21, 30] := by
  decide
example : session (fun x => if x = 3 then .ok [x * 10] else .ok [x * 10, x * 10 + 1]) [1, 2, 3] 4 = .error .xyzError := by
  decide
example : session (fun x => if x = 3 then .ok [x * 10] else .ok [x * 10, x * 10 + 1]) [1, 2, 3] 6 = .error .stopIteration := by
  decide
example : session (fun x => if x = 2 then .error .other else .ok [x * 10, x * 10 + 1]) [1, 2, 3] 1 = .error .other := by
  decide

/-- `os.path.isfile(<results>/RSLT_NM.format(i))` on the model's directory -/
def isFileOf (d : Crop.Dir β) (i : Int) : Bool := (Crop.lookup d.results i.toNat).isSome

/-- `read_from_disk` of result file `i`: its content, an unpickling error, or no such file -/
def readResultOf (d : Crop.Dir β) (i : Int) : Except PyErr (Option (List β)) :=
  match Crop.lookup d.results i.toNat with
  | some (.good rs) => .ok (some rs)
  | some .bad => .error .other
  | none => .error .fileNotFound

/-- `read_from_disk` of batch file `i` -/
def readBatchOf (d : Crop.Dir β) (i : Int) : Except PyErr (List (List Nat)) :=
  match Crop.lookup d.batches i.toNat with
  | some b => .ok b
  | none => .error .fileNotFound

/-- the function the translated `Reaper.__init__` maps over the files, with the directory operations answered by `d`.
`dflt = none` stands for `_NO_DEFAULT`; `junk` is whatever value the sentinel is (the theorems hold for every `junk`);
`bs` is `crop.batchsize` (not read by the source as it stands). -/
def loadOf (d : Crop.Dir β) (wait : Bool) (dflt : Option β) (junk : β) (bs : Int) (fuel : Nat)
    (existsAt : Nat → Int → Bool) (x : Int) : Except PyErr (List β) :=
  Gen.reaperLoadFn dflt.isSome wait (dflt.getD junk) bs (isFileOf d) (readResultOf d) (readBatchOf d) fuel existsAt x

theorem pollUntil_const (fuel : Nat) (b : Bool) (hfuel : 0 < fuel) :
    Gen.pollUntil fuel (fun _ => b) = if b then some 0 else none := by
  obtain ⟨k, rfl⟩ : ∃ k, fuel = k + 1 := ⟨fuel - 1, by omega⟩
  cases b
  · simp [Gen.pollUntil]
  · simp [Gen.pollUntil, List.range_succ_eq_map]

/-- the files the translated generator yields for `nb` batches: `1, …, nb` in this order -/
theorem reaperFiles_eq (nb : Nat) : Gen.reaperFiles (nb : Int) = (List.range nb).map (fun (i : Nat) => (i : Int) + 1) := by
  simp only [Gen.reaperFiles, Gen.Default.reaperFiles, Gen.pyRange]
  apply List.ext_getElem
  · simp
  · intro i h1 h2
    simp

/-- two computations that fail differently but succeed alike -/
theorem toOption_eq_iff {ε ε' α : Type} {x : Except ε α} {y : Except ε' α} (h : x.toOption = y.toOption) (a : α) :
    x = .ok a ↔ y = .ok a := by
  cases x <;> cases y <;> simp_all [Except.toOption]

theorem toOption_bind_congr {ε ε' α δ : Type} {x : Except ε α} {y : Except ε' α} {f : α → Except ε δ}
    {g : α → Except ε' δ} (h : x.toOption = y.toOption) (hfg : ∀ a, (f a).toOption = (g a).toOption) :
    (x.bind f).toOption = (y.bind g).toOption := by
  cases x <;> cases y <;> simp_all [Except.toOption, Except.bind]

/-- **one file**: `Crop.reapStep` appends exactly what the translated loader returns for file `i0 + 1`, and fails when
it raises.  The directory is static while the reap runs (`hstatic`: the model's reap is one atomic operation), a waiting
loop is observed for at least one poll, and batch files are non-empty (C07). -/
theorem reapStep_refines (o : Crop.Obj) (d : Crop.Dir β) (wait : Bool) (dflt : Option β) (junk : β) (bs : Int)
    (fuel : Nat) (existsAt : Nat → Int → Bool) (hfuel : 0 < fuel) (hstatic : ∀ t x, existsAt t x = isFileOf d x)
    (hbne : ∀ i b, Crop.lookup d.batches i = some b → b ≠ []) (stream : List β) (i0 : Nat) :
    match loadOf d wait dflt junk bs fuel existsAt ((i0 : Int) + 1) with
    | .ok rs => Crop.reapStep o d (if wait then none else dflt) (.ok stream) i0 = .ok (stream ++ rs)
    | .error _ => ∃ e, Crop.reapStep o d (if wait then none else dflt) (.ok stream) i0 = .error e := by
  have hnat : ((i0 : Int) + 1).toNat = i0 + 1 := by omega
  have hpoll := pollUntil_const fuel (isFileOf d ((i0 : Int) + 1)) hfuel
  simp only [loadOf, Gen.reaperLoadFn, Gen.Default.reaperLoadFn, Gen.reaperWaitToLoad, Gen.Default.reaperWaitToLoad,
    Gen.reaperLoad, Gen.Default.reaperLoad, Gen.stillWaiting, Crop.reapStep, hstatic, Bool.not_not, hpoll]
  simp only [isFileOf, readResultOf, readBatchOf, hnat]
  cases hres : Crop.lookup d.results (i0 + 1) with
  | none =>
    -- no result file: only a Reaper that does not wait and has a stand-in goes on to read the batch file
    cases hb : Crop.lookup d.batches (i0 + 1) with
    | none => cases wait <;> cases dflt <;> simp
    | some b =>
      obtain ⟨a, t, rfl⟩ := List.exists_cons_of_ne_nil (hbne _ _ hb)
      cases wait <;> cases dflt <;> simp [pos_eq, pos_eq', pos_lt, pos_le, pos_gt, pos_ge]
  | some r =>
    cases r with
    | bad => cases wait <;> cases dflt <;> simp
    | good rs =>
      cases rs with
      | nil => cases wait <;> cases dflt <;> simp
      | cons a t => cases wait <;> cases dflt <;> simp [pos_eq, pos_eq', pos_lt, pos_le, pos_gt, pos_ge]

theorem foldl_reapStep_refines (o : Crop.Obj) (d : Crop.Dir β) (wait : Bool) (dflt : Option β) (junk : β) (bs : Int)
    (fuel : Nat) (existsAt : Nat → Int → Bool) (hfuel : 0 < fuel) (hstatic : ∀ t x, existsAt t x = isFileOf d x)
    (hbne : ∀ i b, Crop.lookup d.batches i = some b → b ≠ []) :
    ∀ (is : List Nat) (acc : List β),
      (is.foldl (Crop.reapStep o d (if wait then none else dflt)) (.ok acc)).toOption =
        (Gen.chainRest (loadOf d wait dflt junk bs fuel existsAt) (is.map fun (i : Nat) => (i : Int) + 1)).toOption.map
          (acc ++ ·) := by
  intro is
  -- on the head of the list, as `Gen.chainRest` recurses; the model-side lemmas (Lemmas/Crop, `reapStream_succ`) induct on
  -- the number of batches from the end, as `reapStream` folds over `range nb`: the two do not share an induction
  induction is with
  | nil => intro acc; simp [Gen.chainRest, Except.toOption]
  | cons i is ih =>
    intro acc
    have h := reapStep_refines o d wait dflt junk bs fuel existsAt hfuel hstatic hbne acc i
    simp only [List.foldl_cons, List.map_cons, Gen.chainRest]
    cases hl : loadOf d wait dflt junk bs fuel existsAt ((i : Int) + 1) with
    | error e =>
      simp only [hl] at h
      obtain ⟨e', he⟩ := h
      rw [he, PyLoop.foldl_error _ (fun _ _ => rfl)]
      simp [Except.toOption]
    | ok rs =>
      simp only [hl] at h
      rw [h, ih]
      cases Gen.chainRest (loadOf d wait dflt junk bs fuel existsAt) (is.map fun (i : Nat) => (i : Int) + 1) <;>
        simp [Except.toOption, List.append_assoc]

/-- **the stream**: `Crop.reapStream` succeeds exactly when loading the translated files `Gen.reaperFiles nb` in order
with the translated loader succeeds, and then with the same stream — for every number of batches, every directory
(every subset of finished batches, readable or not), waiting or not, with or without a stand-in -/
theorem reapStream_refines (o : Crop.Obj) (d : Crop.Dir β) (wait : Bool) (dflt : Option β) (junk : β) (bs : Int)
    (fuel : Nat) (existsAt : Nat → Int → Bool) (hfuel : 0 < fuel) (hstatic : ∀ t x, existsAt t x = isFileOf d x)
    (hbne : ∀ i b, Crop.lookup d.batches i = some b → b ≠ []) (nb : Nat) :
    (Crop.reapStream o d nb (if wait then none else dflt)).toOption =
      (Gen.chainRest (loadOf d wait dflt junk bs fuel existsAt) (Gen.reaperFiles (nb : Int))).toOption := by
  rw [reaperFiles_eq]
  unfold Crop.reapStream
  rw [foldl_reapStep_refines o d wait dflt junk bs fuel existsAt hfuel hstatic hbne (List.range nb) []]
  cases Gen.chainRest (loadOf d wait dflt junk bs fuel existsAt) ((List.range nb).map fun (i : Nat) => (i : Int) + 1) <;>
    simp [Except.toOption]

theorem reapStream_ok_iff (o : Crop.Obj) (d : Crop.Dir β) (wait : Bool) (dflt : Option β) (junk : β) (bs : Int)
    (fuel : Nat) (existsAt : Nat → Int → Bool) (hfuel : 0 < fuel) (hstatic : ∀ t x, existsAt t x = isFileOf d x)
    (hbne : ∀ i b, Crop.lookup d.batches i = some b → b ≠ []) (nb : Nat) (s : List β) :
    Crop.reapStream o d nb (if wait then none else dflt) = .ok s ↔
      Gen.chainRest (loadOf d wait dflt junk bs fuel existsAt) (Gen.reaperFiles (nb : Int)) = .ok s :=
  toOption_eq_iff (reapStream_refines o d wait dflt junk bs fuel existsAt hfuel hstatic hbne nb) s

/-- **the session**: what a runner making `n` calls gets from the translated Reaper (calls, then the exit check) is what
the model's stream followed by the length checks of `Crop.reorder` gives — the results when the stream has exactly `n`
elements, a failure otherwise -/
theorem session_refines (P : Crop.Perms) (o : Crop.Obj) (d : Crop.Dir β) (wait : Bool) (dflt : Option β) (junk : β)
    (bs : Int) (fuel : Nat) (existsAt : Nat → Int → Bool) (hfuel : 0 < fuel)
    (hstatic : ∀ t x, existsAt t x = isFileOf d x)
    (hbne : ∀ i b, Crop.lookup d.batches i = some b → b ≠ []) (nb n : Nat) :
    (session (loadOf d wait dflt junk bs fuel existsAt) (Gen.reaperFiles (nb : Int)) n).toOption =
      ((Crop.reapStream o d nb (if wait then none else dflt)).bind (Crop.reorder P 0 n)).toOption := by
  rw [session_eq]
  refine (toOption_bind_congr (reapStream_refines o d wait dflt junk bs fuel existsAt hfuel hstatic hbne nb) fun s => ?_).symm
  simp only [lengthGate, Crop.reorder]
  rcases Nat.lt_trichotomy n s.length with h | rfl | h
  · simp [h, Nat.lt_asymm h, Except.toOption]
  · simp [Except.toOption]
  · simp [h, Nat.lt_asymm h, Except.toOption]

theorem pollUntil_some (fuel : Nat) (p : Nat → Bool) (h : ∃ t, t < fuel ∧ p t = true) :
    ∃ t, Gen.pollUntil fuel p = some t := by
  obtain ⟨t, ht, hp⟩ := h
  have : (Gen.pollUntil fuel p).isSome = true := by
    simp only [Gen.pollUntil, List.find?_isSome]
    exact ⟨t, by simpa using ht, hp⟩
  exact Option.isSome_iff_exists.mp this

theorem pollUntil_none (fuel : Nat) (p : Nat → Bool) (h : ∀ t, t < fuel → p t = false) :
    Gen.pollUntil fuel p = none := by
  simp only [Gen.pollUntil, List.find?_eq_none]
  intro t ht
  simp [h t (by simpa using ht)]

/-- **with a stand-in and not waiting, a missing result file never raises**: it contributes one stand-in per setting of
the batch file it belongs to -/
theorem reaperLoad_missing_default (dflt : β) (bs : Int) (isFile : Int → Bool)
    (readResult : Int → Except PyErr (Option (List β))) (readBatch : Int → Except PyErr (List γ)) (x : Int) (b : List γ)
    (hmiss : isFile x = false) (hb : readBatch x = .ok b) (hne : b ≠ []) :
    Gen.reaperLoad true false dflt bs isFile readResult readBatch x = .ok (List.replicate b.length dflt) := by
  obtain ⟨a, t, rfl⟩ := List.exists_cons_of_ne_nil hne
  simp [Gen.reaperLoad, Gen.Default.reaperLoad, hmiss, hb, pos_eq, pos_eq', pos_lt, pos_le, pos_gt, pos_ge]

/-- **a result file that holds `None`** is refused with the "contains no data" ValueError -/
theorem reaperLoad_none (hasDefault wait : Bool) (dflt : β) (bs : Int) (isFile : Int → Bool)
    (readResult : Int → Except PyErr (Option (List β))) (readBatch : Int → Except PyErr (List γ)) (x : Int)
    (hfile : isFile x = true) (hr : readResult x = .ok none) :
    Gen.reaperLoad hasDefault wait dflt bs isFile readResult readBatch x = .error .valueError := by
  simp [Gen.reaperLoad, Gen.Default.reaperLoad, hfile, hr]

/-- **an empty result file** likewise -/
theorem reaperLoad_empty (hasDefault wait : Bool) (dflt : β) (bs : Int) (isFile : Int → Bool)
    (readResult : Int → Except PyErr (Option (List β))) (readBatch : Int → Except PyErr (List γ)) (x : Int)
    (hfile : isFile x = true) (hr : readResult x = .ok (some [])) :
    Gen.reaperLoad hasDefault wait dflt bs isFile readResult readBatch x = .error .valueError := by
  simp [Gen.reaperLoad, Gen.Default.reaperLoad, hfile, hr]

/-- the same for the function that is actually chained when `wait` is false -/
theorem reaperLoadFn_missing_default (dflt : β) (bs : Int) (isFile : Int → Bool)
    (readResult : Int → Except PyErr (Option (List β))) (readBatch : Int → Except PyErr (List γ)) (fuel : Nat)
    (existsAt : Nat → Int → Bool) (x : Int) (b : List γ)
    (hmiss : isFile x = false) (hb : readBatch x = .ok b) (hne : b ≠ []) :
    Gen.reaperLoadFn true false dflt bs isFile readResult readBatch fuel existsAt x =
      .ok (List.replicate b.length dflt) := by
  obtain ⟨a, t, rfl⟩ := List.exists_cons_of_ne_nil hne
  simp [Gen.reaperLoadFn, Gen.Default.reaperLoadFn, Gen.reaperLoad, Gen.Default.reaperLoad, hmiss, hb, pos_eq, pos_eq',
    pos_lt, pos_le, pos_gt, pos_ge]

/-- **a result file that is there, readable and non-empty is loaded as it is** — waiting (once the loop has seen it) or
not, with or without a stand-in: a stand-in never replaces an existing result -/
theorem reaperLoadFn_present (hasDefault wait : Bool) (dflt : β) (bs : Int) (isFile : Int → Bool)
    (readResult : Int → Except PyErr (Option (List β))) (readBatch : Int → Except PyErr (List γ)) (fuel : Nat)
    (existsAt : Nat → Int → Bool) (x : Int) (rs : List β)
    (hfile : isFile x = true) (hex : wait = true → ∃ t, t < fuel ∧ existsAt t x = true)
    (hr : readResult x = .ok (some rs)) (hne : rs ≠ []) :
    Gen.reaperLoadFn hasDefault wait dflt bs isFile readResult readBatch fuel existsAt x = .ok rs := by
  obtain ⟨a, t, rfl⟩ := List.exists_cons_of_ne_nil hne
  cases wait with
  | false =>
    simp [Gen.reaperLoadFn, Gen.Default.reaperLoadFn, Gen.reaperLoad, Gen.Default.reaperLoad, hfile, hr, pos_eq, pos_eq',
      pos_lt, pos_le, pos_gt, pos_ge]
  | true =>
    obtain ⟨t0, ht0⟩ := pollUntil_some fuel (fun t => existsAt t x) (by simpa using hex rfl)
    simp [Gen.reaperLoadFn, Gen.Default.reaperLoadFn, Gen.reaperWaitToLoad, Gen.Default.reaperWaitToLoad,
      Gen.reaperLoad, Gen.Default.reaperLoad, hfile, hr, pos_eq, pos_eq', pos_lt, pos_le, pos_gt, pos_ge, ht0]

/-- **a waiting Reaper whose file does not show up is still waiting**: it neither raises nor uses a stand-in -/
theorem reaperLoadFn_waiting (hasDefault : Bool) (dflt : β) (bs : Int) (isFile : Int → Bool)
    (readResult : Int → Except PyErr (Option (List β))) (readBatch : Int → Except PyErr (List γ)) (fuel : Nat)
    (existsAt : Nat → Int → Bool) (x : Int) (hnever : ∀ t, t < fuel → existsAt t x = false) :
    Gen.reaperLoadFn hasDefault true dflt bs isFile readResult readBatch fuel existsAt x = Gen.stillWaiting := by
  have := pollUntil_none fuel (fun t => existsAt t x) (by simpa using hnever)
  simp [Gen.reaperLoadFn, Gen.Default.reaperLoadFn, Gen.reaperWaitToLoad, Gen.Default.reaperWaitToLoad, this]

/-- **the stream over files that are all there** is the concatenation of their contents in the order of
`Gen.reaperFiles` — waiting or not, with or without a stand-in -/
theorem reaperStream_full (hasDefault wait : Bool) (dflt : β) (bs : Int) (isFile : Int → Bool)
    (readResult : Int → Except PyErr (Option (List β))) (readBatch : Int → Except PyErr (List γ)) (fuel : Nat)
    (existsAt : Nat → Int → Bool) (content : Int → List β) :
    ∀ (files : List Int),
      (∀ x ∈ files, isFile x = true ∧ (wait = true → ∃ t, t < fuel ∧ existsAt t x = true) ∧
        readResult x = .ok (some (content x)) ∧ content x ≠ []) →
      Gen.chainRest (Gen.reaperLoadFn hasDefault wait dflt bs isFile readResult readBatch fuel existsAt) files =
        .ok (files.flatMap content) := by
  intro files
  induction files with
  | nil => intro _; simp [Gen.chainRest]
  | cons f files ih =>
    intro h
    obtain ⟨⟨h1, h2, h3, h4⟩, hrest⟩ := List.forall_mem_cons.mp h
    have := reaperLoadFn_present hasDefault wait dflt bs isFile readResult readBatch fuel existsAt f _ h1 h2 h3 h4
    simp [Gen.chainRest, this, ih hrest]

/-- **with a stand-in and not waiting the stream never fails on a missing result**: if every result file that is there
is readable and non-empty, and every batch file is readable and non-empty, the whole stream loads -/
theorem reaperStream_default_total (dflt : β) (bs : Int) (isFile : Int → Bool)
    (readResult : Int → Except PyErr (Option (List β))) (readBatch : Int → Except PyErr (List γ)) (fuel : Nat)
    (existsAt : Nat → Int → Bool) :
    ∀ (files : List Int),
      (∀ x ∈ files, (isFile x = true → ∃ rs, readResult x = .ok (some rs) ∧ rs ≠ []) ∧
        (∃ b, readBatch x = .ok b ∧ b ≠ [])) →
      ∃ s, Gen.chainRest (Gen.reaperLoadFn true false dflt bs isFile readResult readBatch fuel existsAt) files = .ok s := by
  intro files
  induction files with
  | nil => intro _; exact ⟨[], by simp [Gen.chainRest]⟩
  | cons f files ih =>
    intro h
    obtain ⟨⟨h1, b, hb, hbne⟩, hrest⟩ := List.forall_mem_cons.mp h
    obtain ⟨s, hs⟩ := ih hrest
    cases hf : isFile f with
    | true =>
      obtain ⟨rs, hr, hne⟩ := h1 hf
      have := reaperLoadFn_present true false dflt bs isFile readResult readBatch fuel existsAt f rs hf (by simp) hr hne
      exact ⟨rs ++ s, by simp [Gen.chainRest, this, hs]⟩
    | false =>
      have h2 := reaperLoadFn_missing_default dflt bs isFile readResult readBatch fuel existsAt f b hf hb hbne
      exact ⟨List.replicate b.length dflt ++ s, by simp [Gen.chainRest, h2, hs]⟩

/-- **how `reap_combos` makes its Reaper**: for the stored number of batches, with the caller's `wait`, and with a
stand-in exactly when `allow_incomplete` is given (`calc_clean_up_default_res`).  `Crop.reapLinear` calls `Crop.reapStream`
with the same three (read off its definition; no theorem states it) -/
theorem reapCombos_reaper_args (wait : Bool) (cleanUp : Option Bool) (allowIncomplete : Bool) (infoNb : Int) :
    Gen.reapCombosReaper wait cleanUp allowIncomplete infoNb = .ok (infoNb, wait, allowIncomplete) := by
  cases cleanUp <;> cases allowIncomplete <;>
    simp [Gen.reapCombosReaper, Gen.Default.reapCombosReaper, Gen.calcCleanUp, Gen.Default.calcCleanUp]

/-! Non-vacuity: a two-batch directory with batch 2 missing; with the stand-in 99 the stream is the result of batch 1
followed by one stand-in per setting of batch 2; without it the reap fails -/
example : Gen.chainRest (loadOf (β := Nat) { batches := [(1, [[0], [1]]), (2, [[2]])], results := [(1, .good [10, 11])] }
    false (some 99) 0 2 1 (fun _ _ => true)) (Gen.reaperFiles 2) = .ok [10, 11, 99] := by decide
example : Gen.chainRest (loadOf (β := Nat) { batches := [(1, [[0], [1]]), (2, [[2]])], results := [(1, .good [10, 11])] }
    false none 0 2 1 (fun _ _ => true)) (Gen.reaperFiles 2) = .error .fileNotFound := by decide
example : Gen.reapCombosReaper true none true 3 = .ok (3, true, true) := by decide

end Reaper

/-! ### the options of a reap: `Gen.calcCleanUp`, `Gen.checkReady`, `Gen.reaperUseDefault` are the whole bodies of
`calc_clean_up_default_res`, `check_ready_to_reap` and the `use_default` decision of `Reaper._load` -/
namespace Refine

/-- `calc_clean_up_default_res`: the clean-up flag it returns is `Crop.cleanUpResolved`, and a stand-in result is
used exactly when `allow_incomplete` is given -/
theorem calcCleanUp_refines (cleanUp : Option Bool) (allowIncomplete : Bool) :
    Gen.calcCleanUp cleanUp allowIncomplete
      = .ok (some (Crop.cleanUpResolved cleanUp allowIncomplete), allowIncomplete) := by
  cases cleanUp <;> cases allowIncomplete <;>
    simp [Gen.calcCleanUp, Gen.Default.calcCleanUp, Crop.cleanUpResolved, Gen.cleanUpDefault, Gen.Default.cleanUpDefault]

/-- `check_ready_to_reap` raises (XYZError) exactly when the model's gate is closed -/
theorem checkReady_refines {β} (s : Crop.St β) (allowIncomplete wait : Bool) :
    Gen.checkReady allowIncomplete wait (Crop.isReady s).2
      = if (Crop.readyGate s allowIncomplete wait).2 then .ok () else .error .xyzError := by
  cases allowIncomplete <;> cases wait <;> cases h : (Crop.isReady s).2 <;>
    simp [Gen.checkReady, Gen.Default.checkReady, Crop.readyGate, h]

/-- the Reaper substitutes the stand-in exactly when one is available and the file is absent — stated where the test is
ever evaluated: not waiting, or waiting on a file that is there (`wait_to_load` only loads what exists, so what the test
says for a waiting Reaper and an absent file is dead code: a source that drops `not wait` from it behaves the same; the
Reaper-level statements are `Reaper.reaperLoadFn_present` / `reaperLoadFn_waiting`) -/
theorem reaperUseDefault_spec (hasDefault isFile : Bool) :
    Gen.reaperUseDefault hasDefault false isFile = (hasDefault && !isFile) ∧
    Gen.reaperUseDefault hasDefault true true = false := by
  cases hasDefault <;> cases isFile <;> simp [Gen.reaperUseDefault, Gen.Default.reaperUseDefault]

end Refine
