import XyzModel.Crop
import XyzProofs.Lemmas.Batch
/-!
# The hand-written batching model is the translated source (function-level refinement)

`Gen.chooseBatchSettings`, `Gen.sowerInit`, `Gen.sowerCall`, `Gen.sowerExit` are the *whole bodies* of
`Crop.choose_batch_settings`, `Sower.__init__`, `Sower.__call__` (+ the inlined `save_batch`) and `Sower.__exit__`,
translated from the repository source on every run (harness/pyfn2lean.py).  The theorems below say that the
hand-written `Batch.chooseBatch`, `Batch.step`, `Batch.finish`, `Batch.sow` — about which C04/C07/C08/C09 are proved —
compute exactly what those translated bodies compute.

At the end, the attribute updates of `sow_combos` / `sow_cases`: `Gen.sowCombosHead` / `Gen.sowCasesHead` are the leading
`if <arg> is not None: self.<attr> = <arg>` statements of the two methods, translated the same way, and the hand-written
`Crop.sowAttrs` is what they leave.
-/
-- every `simp` below lists a translated function and its last-good text, so one of the two is always unused
set_option linter.unusedSimpArgs false
namespace Refine
open Batch

/-- how a result of the translated `choose_batch_settings` is read as the model's `Cfg` -/
def cfgOf : Except Gen.PyErr (Option Int × Option Int × Option Int) → Except Batch.Err Batch.Cfg
  | .ok (some b, some k, r) => .ok ⟨b.toNat, k.toNat, (r.getD 0).toNat⟩
  | .ok _ => .error .type
  | .error .typeError => .error .type
  | .error _ => .error .value

def ofNat? (o : Option Nat) : Option Int := o.map Int.ofNat

/-- `Crop.choose_batch_settings`, as translated from the source, is `Batch.chooseBatch` for
`n = (len(cases) or 1) * (product of the combo lengths, or 1)`; the three attributes it leaves behind are the
model's `Cfg` (an absent remainder reads as 0). -/
theorem chooseBatch_refines (ct : Bool) (cp : Nat) (cst : Bool) (cl : Nat) (bs nb rem : Option Nat) :
    Batch.chooseBatch ((if cst then cl else 1) * (if ct then cp else 1)) bs nb rem
      = cfgOf (Gen.chooseBatchSettings ct cp cst cl (ofNat? bs) (ofNat? nb) (ofNat? rem)) := by
  have hn : (((if cst then cl else 1) * (if ct then cp else 1) : Nat) : Int)
      = (if cst then (cl : Int) else 1) * (if ct then (cp : Int) else 1) := by
    cases cst <;> cases ct <;> simp
  generalize ((if cst then cl else 1) * (if ct then cp else 1) : Nat) = N at hn
  -- mode by mode.  In each the comparisons of the source's test are decided first, in ℤ, plain and negated (`< 1`, `≤ 0`,
  -- `≥ 1`, `> 0`), so that `simp` evaluates the test however the source spells it: the text is re-extracted on every run
  cases nb with
  | none =>
    -- a batch size (1 if none is given): it must be positive; the count is the ceiling of `N / batchsize`
    cases bs with
    | none =>
      simp [Batch.chooseBatch, Gen.chooseBatchSettings, Gen.Default.chooseBatchSettings, ofNat?, Gen.nbFromBs,
        Gen.Default.nbFromBs, ← hn, cfgOf]
    | some bs =>
      rcases Nat.lt_or_ge bs 1 with hb | hb
      · obtain rfl : bs = 0 := by omega
        simp [Batch.chooseBatch, Gen.chooseBatchSettings, Gen.Default.chooseBatchSettings, ofNat?, cfgOf]
      · have a1 : (1 : Int) ≤ bs := by omega
        have a0 : (0 : Int) < bs := by omega
        simp [Batch.chooseBatch, Gen.chooseBatchSettings, Gen.Default.chooseBatchSettings, ofNat?, Gen.nbFromBs,
          Gen.Default.nbFromBs, ← hn, cfgOf, Nat.not_lt.mpr hb, Nat.ne_of_gt hb, a1, a0, Int.not_lt.mpr a1, Int.not_le.mpr a0]
  | some nb =>
    cases bs with
    | none =>
      -- a batch count: capped by `N`, it must be positive; size and remainder are quotient and rest
      have hcap : (min (N : Int) (nb : Int)).toNat = min N nb := by omega
      have hmin : ((min N nb : Nat) : Int) = min (N : Int) (nb : Int) := by omega
      rcases Nat.lt_or_ge (min N nb) 1 with hb | hb
      · have a1 : min (N : Int) (nb : Int) < 1 := by omega
        have a0 : min (N : Int) (nb : Int) ≤ 0 := by omega
        simp [Batch.chooseBatch, Gen.chooseBatchSettings, Gen.Default.chooseBatchSettings, ofNat?, Gen.capNb,
          Gen.Default.capNb, ← hn, cfgOf, hcap, hb, a1, a0, Int.not_le.mpr a1, Int.not_lt.mpr a0]
      · have a1 : (1 : Int) ≤ min (N : Int) (nb : Int) := by omega
        have a0 : (0 : Int) < min (N : Int) (nb : Int) := by omega
        simp [Batch.chooseBatch, Gen.chooseBatchSettings, Gen.Default.chooseBatchSettings, ofNat?, Gen.capNb,
          Gen.Default.capNb, Gen.bsOfNb, Gen.Default.bsOfNb, Gen.remOfNb, Gen.Default.remOfNb, ← hn, cfgOf, hcap, hmin,
          Nat.not_lt.mpr hb, a1, a0, Int.not_lt.mpr a1, Int.not_le.mpr a0]
    | some bs =>
      -- both: accepted exactly when `N ≤ batchsize * num_batches + remainder < N + batchsize` (`not (a <= x < b)`, guard
      -- clauses, …); the model's side is `Batch.chooseBatch_both`
      rw [Batch.chooseBatch_both]
      rcases Nat.lt_or_ge (bs * nb + rem.getD 0) N with h1 | h1
      · -- too few places
        have a1 : (bs : Int) * nb + (rem.getD 0 : Nat) < N := by exact_mod_cast h1
        cases rem
        all_goals simp at a1 h1
        all_goals simp [Gen.chooseBatchSettings, Gen.Default.chooseBatchSettings, ofNat?, ← hn, cfgOf, Nat.not_le.mpr h1, a1,
          Int.not_le.mpr a1]
      rcases Nat.lt_or_ge (bs * nb + rem.getD 0) (N + bs) with h2 | h2
      · -- accepted
        have a1 : (N : Int) ≤ (bs : Int) * nb + (rem.getD 0 : Nat) := by exact_mod_cast h1
        have a2 : (bs : Int) * nb + (rem.getD 0 : Nat) < N + bs := by exact_mod_cast h2
        cases rem
        all_goals simp at a1 a2 h1 h2
        all_goals simp [Gen.chooseBatchSettings, Gen.Default.chooseBatchSettings, ofNat?, ← hn, cfgOf, h1, h2, a1, a2,
          Int.not_lt.mpr a1, Int.not_le.mpr a2]
      · -- a whole batch too many
        have a2 : (N : Int) + bs ≤ (bs : Int) * nb + (rem.getD 0 : Nat) := by exact_mod_cast h2
        cases rem
        all_goals simp at a2 h2
        all_goals simp [Gen.chooseBatchSettings, Gen.Default.chooseBatchSettings, ofNat?, ← hn, cfgOf, Nat.not_lt.mpr h2, a2,
          Int.not_lt.mpr a2]

/-- batch files as the Sower numbers them: the `i`-th batch written (0-based) is file `i + 1` -/
def numbered {β} : Nat → List β → List (Int × β)
  | _, [] => []
  | k, b :: bs => ((k : Int) + 1, b) :: numbered (k + 1) bs

theorem numbered_append {β} (k : Nat) (l : List β) (b : β) :
    numbered k (l ++ [b]) = numbered k l ++ [(((k + l.length : Nat) : Int) + 1, b)] := by
  induction l generalizing k with
  | nil => simp [numbered]
  | cons x xs ih =>
    simp only [List.cons_append, numbered, ih, List.length_cons]
    have : k + 1 + xs.length = k + (xs.length + 1) := by omega
    rw [this]

/-- the Sower object that stands for a model state: `_batch_cases`, `_counter`, `_batch_counter`, files written -/
def conc {α} (s : St α) : List α × Int × Int × List (Int × List α) :=
  (s.cur, (s.cur.length : Int), (s.out.length : Int), numbered 0 s.out)

theorem sowerInit_refines {α} : (Gen.sowerInit : Except Gen.PyErr (List α × Int × Int)) = .ok ([], 0, 0) := by
  simp [Gen.sowerInit, Gen.Default.sowerInit]

/-- `Sower.__call__` (with `save_batch` inlined), as translated from the source, is `Batch.step` -/
theorem sowerCall_refines {α} (c : Cfg) (s : St α) (x : α) :
    Gen.sowerCall (c.batchsize : Int) (c.remainder : Int) s.cur s.cur.length s.out.length (numbered 0 s.out) x
      = .ok (conc (Batch.step c s x)) := by
  simp only [Gen.sowerCall, Gen.Default.sowerCall, Batch.step, conc, Gen.sowerFlush, Gen.Default.sowerFlush,
    Gen.sowerGetsExtra, Gen.Default.sowerGetsExtra, List.length_append, List.length_cons, List.length_nil]
  by_cases h : (s.cur.length : Int) + 1 = (c.batchsize : Int) + if s.out.length < c.remainder then 1 else 0
  · simp [h, numbered_append]
  · simp [h]

/-- `Sower.__exit__`, as translated from the source, writes the overfill exactly as `Batch.finish` says -/
theorem sowerExit_refines {α} (s : St α) :
    ∃ a b c, Gen.sowerExit s.cur (s.cur.length : Int) (s.out.length : Int) (numbered 0 s.out)
      = .ok (a, b, c, numbered 0 (Batch.finish s)) := by
  simp only [Gen.sowerExit, Gen.Default.sowerExit, Batch.finish]
  cases hc : s.cur.isEmpty
  · simp [numbered_append]
  · simp

/-- a Sower driven the way `combo_runner_core` drives it: enter, one call per setting, exit; the value is the list
of batch files written -/
def runSower {α} (batchsize remainder : Int) (l : List α) : Except Gen.PyErr (List (Int × List α)) :=
  match (Gen.sowerInit : Except Gen.PyErr (List α × Int × Int)) with
  | .error e => .error e
  | .ok (bc, cnt, k) =>
    match l.foldlM (fun (st : List α × Int × Int × List (Int × List α)) x =>
        Gen.sowerCall batchsize remainder st.1 st.2.1 st.2.2.1 st.2.2.2 x) (bc, cnt, k, []) with
    | .error e => .error e
    | .ok st =>
      match Gen.sowerExit st.1 st.2.1 st.2.2.1 st.2.2.2 with
      | .error e => .error e
      | .ok r => .ok r.2.2.2

theorem foldlM_sowerCall {α} (c : Cfg) (l : List α) (s : St α) :
    l.foldlM (fun (st : List α × Int × Int × List (Int × List α)) x =>
        Gen.sowerCall (c.batchsize : Int) (c.remainder : Int) st.1 st.2.1 st.2.2.1 st.2.2.2 x) (conc s)
      = .ok (conc (l.foldl (Batch.step c) s)) := by
  induction l generalizing s with
  | nil => simp [pure, Except.pure]
  | cons x xs ih =>
    simp only [List.foldlM_cons, List.foldl_cons]
    have := sowerCall_refines c s x
    simp only [conc] at this ih ⊢
    simp only [this, bind, Except.bind]
    exact ih _

/-- **The Sower, as translated from the source, writes exactly the batch files `Batch.sow` describes**, numbered
from 1 in the order written — for every batch configuration and every stream of settings. -/
theorem sower_refines {α} (c : Cfg) (l : List α) :
    runSower (c.batchsize : Int) (c.remainder : Int) l = .ok (numbered 0 (Batch.sow c l)) := by
  unfold runSower
  rw [sowerInit_refines]
  have h := foldlM_sowerCall c l { cur := [], out := [] }
  simp only [conc, List.length_nil, numbered, Int.natCast_zero] at h
  dsimp only
  rw [h]
  dsimp only
  obtain ⟨a, b, d, he⟩ := sowerExit_refines (l.foldl (Batch.step c) { cur := [], out := [] })
  rw [he]
  rfl

open Crop

/-- the head of `sow_combos` leaves exactly the attributes `Crop.sowAttrs … true …` describes -/
theorem sowAttrs_combos_refines (o : Obj) (shArg bs nb : Option Nat) :
    Gen.sowCombosHead (ofNat? bs) (ofNat? nb) (ofNat? shArg) (ofNat? o.bs) (ofNat? o.nb) (some (o.shuffle : Int))
      = .ok (ofNat? (sowAttrs o true shArg bs nb).bs, ofNat? (sowAttrs o true shArg bs nb).nb,
             some ((sowAttrs o true shArg bs nb).shuffle : Int)) := by
  cases shArg <;> cases bs <;> cases nb <;>
    simp [Gen.sowCombosHead, Gen.Default.sowCombosHead, sowAttrs, ofNat?]

/-- the head of `sow_cases` leaves exactly the attributes `Crop.sowAttrs … false …` describes (the crop's own
shuffle setting is untouched whatever `shArg` says: the method has no such argument) -/
theorem sowAttrs_cases_refines (o : Obj) (shArg bs nb : Option Nat) :
    Gen.sowCasesHead (ofNat? bs) (ofNat? nb) (ofNat? o.bs) (ofNat? o.nb) (some (o.shuffle : Int))
      = .ok (ofNat? (sowAttrs o false shArg bs nb).bs, ofNat? (sowAttrs o false shArg bs nb).nb,
             some ((sowAttrs o false shArg bs nb).shuffle : Int)) := by
  cases shArg <;> cases bs <;> cases nb <;>
    simp [Gen.sowCasesHead, Gen.Default.sowCasesHead, sowAttrs, ofNat?]

end Refine
