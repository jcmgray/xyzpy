import XyzProofs.Lemmas.Stats
import XyzProofs.Lemmas.TwoMode
/-!
# C19 — the hand-written models `Stats.*` are the translated methods of xyzpy/utils.py

`Gen.rsInit … Gen.rsConverged`, `Gen.rsUpdateFromIt`, `Gen.rc*`, `Gen.estimateFromRepeats` are regenerated from the
source on every run (harness/anchors_numfn.py): whole method bodies over an abstract number type `K`, with `abs`,
`sqrt` (`** 0.5`) and `inf` (`np.inf`) as parameters.

Here `K` is **any ordered field with square roots of non-negative elements** (`hsqrt`; `ℝ` with `Real.sqrt` is one, see
the non-vacuity examples in `Props/C19Real.lean`), the rationals are embedded by `Rat.cast`, and `inf` is *arbitrary*:
every statement holds whatever `np.inf` is taken to be, because the `count == 0` guards never fire after an update.
Exact arithmetic: floating point is not modelled (DESIGN §1, "Honest limits").
-/
namespace Stats
open List

section generic
variable {K : Type} [Field K] [LinearOrder K] [IsStrictOrderedRing K]

/-- the attributes of a `RunningStatistics` object, as the translated methods take them -/
def RS.toK (s : RS) : K × K × K := (((s.count : ℤ) : K), ((s.mean : ℚ) : K), ((s.M2 : ℚ) : K))
/-- the attributes of a `RunningCovariance` object -/
def RC.toK (s : RC) : K × K × K × K :=
  (((s.count : ℤ) : K), ((s.xmean : ℚ) : K), ((s.ymean : ℚ) : K), ((s.C : ℚ) : K))

theorem rat_abs_eq (q : ℚ) : q.abs = |q| := by
  unfold Rat.abs
  split
  · rename_i h; rw [abs_of_nonneg h]
  · rename_i h; rw [abs_of_neg (not_le.mp h)]

theorem lt_iff_sq_lt {t r : K} (ht : 0 ≤ t) : t < r ↔ 0 < r ∧ t * t < r * r :=
  ⟨fun h => ⟨ht.trans_lt h, mul_self_lt_mul_self ht h⟩, fun h => lt_of_mul_self_lt_mul_self₀ h.1.le h.2⟩

/-- the samples kept for `get="samples"` after `n` iterations -/
def xsOf (gs : Bool) (f : ℕ → ℚ) (n : ℕ) : List K := if gs then (pre f n).map (Rat.cast : ℚ → K) else []

omit [LinearOrder K] [IsStrictOrderedRing K] in
theorem xsOf_succ (gs : Bool) (f : ℕ → ℚ) (n : ℕ) :
    xsOf (K := K) gs f (n + 1) = if gs then xsOf gs f n ++ [((f n : ℚ) : K)] else xsOf gs f n := by
  cases gs <;> simp [xsOf, pre_succ]

/-- the state of the translated loop (number of calls of `fn`, kept samples, the attributes of `rs`) that corresponds
to the model state `r` -/
def loopSt (gs : Bool) (f : ℕ → ℚ) (r : RS) : ℕ × List K × K × K × K :=
  (r.count.toNat, xsOf gs f r.count.toNat, r.toK)

omit [LinearOrder K] [IsStrictOrderedRing K] in
theorem loopSt_run (gs : Bool) (f : ℕ → ℚ) (n : ℕ) :
    loopSt (K := K) gs f (run (pre f n)) = (n, xsOf gs f n, (run (pre f n)).toK) := by
  simp [loopSt, count_run_pre]

omit [LinearOrder K] [IsStrictOrderedRing K] in
/-- a loop body that takes `loopSt` of the model's state to `loopSt` of the model's next state and breaks iff `stopNow`
makes `Gen.forCount` compute `loopSt` of the model's `loop` (counter and state are taken up to an equation so that the
lemma also rewrites a loop started at the literal `0`) -/
theorem forCount_loop (gs : Bool) (f : ℕ → ℚ) (P : Params) (body : ℤ → ℕ × List K × K × K × K → (ℕ × List K × K × K × K) × Bool)
    (hbody : ∀ n : ℕ, body (n : ℤ) (loopSt gs f (run (pre f n)))
      = (loopSt gs f (run (pre f (n + 1))), stopNow P n (run (pre f (n + 1)))))
    (fuel n : ℕ) (i : ℤ) (st : ℕ × List K × K × K × K) (hi : i = (n : ℤ)) (hst : st = loopSt gs f (run (pre f n))) :
    Gen.forCount body fuel i st = loopSt gs f (loop f P fuel n (run (pre f n))) := by
  subst hi hst
  induction fuel generalizing n with
  | zero => rfl
  | succ fuel ih =>
    unfold Gen.forCount loop
    simp only [hbody, ← run_pre_succ]
    cases hs : stopNow P n (run (pre f (n + 1)))
    · simp only [Bool.false_eq_true, if_false]
      rw [← ih (n + 1)]
      push_cast
      rfl
    · simp only [if_true]

/-- every path through a loop body returns the same state: the `if`s only decide whether it breaks -/
theorem pair_ite {α β : Type} (c : Prop) [Decidable c] (a : α) (x y : β) :
    (if c then (a, x) else (a, y)) = (a, if c then x else y) :=
  (apply_ite (Prod.mk a) c x y).symm

/-- what `estimate_from_repeats` returns for the three `get=` modes, from the model's final state -/
def estResult (gs gm : Bool) (f : ℕ → ℚ) (r : RS) : Gen.EstResult K × ℕ :=
  (if gs then .samples ((r.count : ℤ) : K) (r.mean : K) (r.M2 : K) (xsOf true f r.count.toNat)
   else if gm then .mean (r.mean : K) else .stats ((r.count : ℤ) : K) (r.mean : K) (r.M2 : K), r.count.toNat)

/-! ### the committed last-good definitions (`Gen.Default.*`)
A generated definition that falls back *is* its `Gen.Default` twin, and a fallen-back caller calls the `Gen.Default`
callees.  The mathematics is done here, once, on the last-good text; the next section shows that the definitions
translated from the current source are the same functions. -/
namespace Dflt

omit [IsStrictOrderedRing K] in
/-- `RunningStatistics.__init__` -/
theorem rsInit_refines : Gen.Default.rsInit (K := K) = RS.init.toK := by
  simp [Gen.Default.rsInit, RS.toK, RS.init]

/-- `RunningStatistics.update`: the translated body is the model's update (which is assembled from the symbolically
executed attribute expressions `Gen.welford*`) -/
theorem rsUpdate_refines (s : RS) (x : ℚ) :
    Gen.Default.rsUpdate ((s.count : ℤ) : K) (s.mean : K) (s.M2 : K) (x : K) = (s.update x).toK := by
  simp only [Gen.Default.rsUpdate, RS.toK, RS.update_eq]
  simp

/-- `RunningStatistics.update_from_it`: the translated `for x in xs: self.update(x)` is the model's fold -/
theorem rsUpdateFromIt_refines (s : RS) (xs : List ℚ) :
    Gen.Default.rsUpdateFromIt ((s.count : ℤ) : K) (s.mean : K) (s.M2 : K) (xs.map (Rat.cast : ℚ → K)) = (s.updateFromIt xs).toK := by
  have h := List.foldl_hom (RS.toK (K := K)) (g₂ := fun st x => Gen.Default.rsUpdate st.1 st.2.1 st.2.2 ((x : ℚ) : K))
    (l := xs) (init := s) rsUpdate_refines
  simpa only [Gen.Default.rsUpdateFromIt, RS.updateFromIt, List.foldl_map, RS.toK] using h

/-- `RunningStatistics.var` of an object that has seen a sample: the guard `count == 0` does not fire and the value is
the model's `var` (whatever `abs`, `sqrt`, `inf` are) -/
theorem rsVar_refines (abs sqrt : K → K) (inf : K) (s : RS) (hc : s.count ≠ 0) :
    Gen.Default.rsVar abs sqrt inf ((s.count : ℤ) : K) (s.mean : K) (s.M2 : K) = ((s.var : ℚ) : K) := by
  have hc' : ((s.count : ℤ) : K) ≠ 0 := by exact_mod_cast hc
  simp only [Gen.Default.rsVar, RS.var_eq]
  simp [hc']

/-- `var` of a fresh object is `np.inf` -/
theorem rsVar_fresh (abs sqrt : K → K) (inf : K) (mean M2 : K) :
    Gen.Default.rsVar abs sqrt inf 0 mean M2 = inf ∧ Gen.Default.rsStd abs sqrt inf 0 mean M2 = inf ∧
    Gen.Default.rsErr abs sqrt inf 0 mean M2 = inf ∧ Gen.Default.rsRelErr abs sqrt inf 0 mean M2 = inf := by
  simp [Gen.Default.rsVar, Gen.Default.rsStd, Gen.Default.rsErr, Gen.Default.rsRelErr]

/-- `std`, `err`: squares of the translated values are the model's `var`, `errSq` -/
theorem rsStd_sq (abs sqrt : K → K) (hsqrt : IsSqrt sqrt) (inf : K) (s : RS) (hc : 0 < s.count) (hM : 0 ≤ s.M2) :
    0 ≤ Gen.Default.rsStd abs sqrt inf ((s.count : ℤ) : K) (s.mean : K) (s.M2 : K) ∧
    Gen.Default.rsStd abs sqrt inf ((s.count : ℤ) : K) (s.mean : K) (s.M2 : K) *
      Gen.Default.rsStd abs sqrt inf ((s.count : ℤ) : K) (s.mean : K) (s.M2 : K) = ((s.var : ℚ) : K) := by
  have hc' : ((s.count : ℤ) : K) ≠ 0 := by exact_mod_cast hc.ne'
  have e : Gen.Default.rsStd abs sqrt inf ((s.count : ℤ) : K) (s.mean : K) (s.M2 : K) = sqrt ((s.var : ℚ) : K) := by
    simp [Gen.Default.rsStd, rsVar_refines abs sqrt inf s hc.ne', hc']
  rw [e]
  exact hsqrt _ (by exact_mod_cast var_nonneg hc hM)

/-- `RunningStatistics.err` -/
theorem rsErr_sq (abs sqrt : K → K) (hsqrt : IsSqrt sqrt) (inf : K) (s : RS) (hc : 0 < s.count) (hM : 0 ≤ s.M2) :
    0 ≤ Gen.Default.rsErr abs sqrt inf ((s.count : ℤ) : K) (s.mean : K) (s.M2 : K) ∧
    Gen.Default.rsErr abs sqrt inf ((s.count : ℤ) : K) (s.mean : K) (s.M2 : K) *
      Gen.Default.rsErr abs sqrt inf ((s.count : ℤ) : K) (s.mean : K) (s.M2 : K) = ((s.errSq : ℚ) : K) := by
  have hcK : (0 : K) < ((s.count : ℤ) : K) := by exact_mod_cast hc
  obtain ⟨h0, hsq⟩ := rsStd_sq abs sqrt hsqrt inf s hc hM
  obtain ⟨hr0, hrsq⟩ := hsqrt _ hcK.le
  have e : Gen.Default.rsErr abs sqrt inf ((s.count : ℤ) : K) (s.mean : K) (s.M2 : K)
      = Gen.Default.rsStd abs sqrt inf ((s.count : ℤ) : K) (s.mean : K) (s.M2 : K) / sqrt ((s.count : ℤ) : K) := by
    simp [Gen.Default.rsErr, hcK.ne']
  rw [e]
  refine ⟨div_nonneg h0 hr0, ?_⟩
  rw [div_mul_div_comm, hsq, hrsq]
  simp only [RS.errSq]
  push_cast
  rfl

/-- `RunningStatistics.converged(rtol, atol)`: with *any* exact square root, the translated test
`self.err < rtol * abs(self.mean) + atol` is the model's square-root-free decision -/
theorem rsConverged_refines (sqrt : K → K) (hsqrt : IsSqrt sqrt) (inf : K) (s : RS) (hc : 0 < s.count) (hM : 0 ≤ s.M2)
    (rtol atol : ℚ) :
    Gen.Default.rsConverged (fun a => |a|) sqrt inf ((s.count : ℤ) : K) (s.mean : K) (s.M2 : K) (rtol : K) (atol : K)
      = s.converged rtol atol := by
  obtain ⟨h0, hsq⟩ := rsErr_sq (fun a => |a|) sqrt hsqrt inf s hc hM
  simp only [Gen.Default.rsConverged, RS.converged, Gen.convRhs, Gen.Default.convRhs, rat_abs_eq]
  have hrhs : ((rtol : ℚ) : K) * |((s.mean : ℚ) : K)| + ((atol : ℚ) : K) = ((rtol * |s.mean| + atol : ℚ) : K) := by
    push_cast; rfl
  rw [hrhs, Bool.eq_iff_iff]
  simp only [decide_eq_true_eq, Bool.and_eq_true]
  rw [lt_iff_sq_lt h0, hsq, ← Rat.cast_mul, Rat.cast_lt, Rat.cast_pos]

/-- `RunningCovariance.__init__` -/
theorem rcInit_refines : Gen.Default.rcInit (K := K) = RC.init.toK := by
  simp [Gen.Default.rcInit, RC.toK, RC.init]

/-- `RunningCovariance.update` -/
theorem rcUpdate_refines (s : RC) (p : ℚ × ℚ) :
    Gen.Default.rcUpdate ((s.count : ℤ) : K) (s.xmean : K) (s.ymean : K) (s.C : K) (p.1 : K) (p.2 : K) = (s.update p).toK := by
  simp only [Gen.Default.rcUpdate, RC.toK, RC.update_eq]
  simp

/-- `RunningCovariance.update_from_it`: the translated `for x, y in zip(xs, ys): self.update(x, y)` is the model's fold -/
theorem rcUpdateFromIt_refines (s : RC) (xs ys : List ℚ) :
    Gen.Default.rcUpdateFromIt ((s.count : ℤ) : K) (s.xmean : K) (s.ymean : K) (s.C : K)
        (xs.map (Rat.cast : ℚ → K)) (ys.map (Rat.cast : ℚ → K)) = (s.updateFromIt (xs.zip ys)).toK := by
  have h := List.foldl_hom (RC.toK (K := K))
    (g₂ := fun st p => Gen.Default.rcUpdate st.1 st.2.1 st.2.2.1 st.2.2.2 ((p.1 : ℚ) : K) ((p.2 : ℚ) : K))
    (l := xs.zip ys) (init := s) rcUpdate_refines
  simpa only [Gen.Default.rcUpdateFromIt, RC.updateFromIt, List.zip_map, List.foldl_map, Prod.map, RC.toK] using h

/-- `RunningCovariance.covar` / `sample_covar` -/
theorem rcCovar_refines (s : RC) :
    Gen.Default.rcCovar ((s.count : ℤ) : K) (s.xmean : K) (s.ymean : K) (s.C : K) = ((s.covar : ℚ) : K) ∧
    Gen.Default.rcSampleCovar ((s.count : ℤ) : K) (s.xmean : K) (s.ymean : K) (s.C : K) = ((s.sampleCovar : ℚ) : K) := by
  simp only [Gen.Default.rcCovar, Gen.Default.rcSampleCovar, RC.covar_eq, RC.sampleCovar_eq]
  simp

end Dflt

/-! ### the definitions translated from the current source are the last-good ones
Definitionally (`rfl`) while the translation is textually the last-good text or has fallen back to it; after a harmless
rewrite of the source (a swapped guard, a value read into a local first) by unfolding both texts and deciding every test. -/

section
omit [IsStrictOrderedRing K]

theorem rsInit_eq : Gen.rsInit (K := K) = Gen.Default.rsInit := by
  same_gen [Gen.rsInit, Gen.Default.rsInit]

theorem rsUpdate_eq : Gen.rsUpdate (K := K) = Gen.Default.rsUpdate := by
  same_gen [Gen.rsUpdate, Gen.Default.rsUpdate]

theorem rsUpdateFromIt_eq : Gen.rsUpdateFromIt (K := K) = Gen.Default.rsUpdateFromIt := by
  same_gen [Gen.rsUpdateFromIt, Gen.Default.rsUpdateFromIt, rsUpdate_eq]

theorem rsVar_eq : Gen.rsVar (K := K) = Gen.Default.rsVar := by
  same_gen [Gen.rsVar, Gen.Default.rsVar]

theorem rsStd_eq : Gen.rsStd (K := K) = Gen.Default.rsStd := by
  same_gen [Gen.rsStd, Gen.Default.rsStd, rsVar_eq]

theorem rsErr_eq : Gen.rsErr (K := K) = Gen.Default.rsErr := by
  same_gen [Gen.rsErr, Gen.Default.rsErr, rsStd_eq]

theorem rsRelErr_eq : Gen.rsRelErr (K := K) = Gen.Default.rsRelErr := by
  same_gen [Gen.rsRelErr, Gen.Default.rsRelErr, rsErr_eq]

theorem rsConverged_eq : Gen.rsConverged (K := K) = Gen.Default.rsConverged := by
  same_gen [Gen.rsConverged, Gen.Default.rsConverged, rsErr_eq]

theorem rcInit_eq : Gen.rcInit (K := K) = Gen.Default.rcInit := by
  same_gen [Gen.rcInit, Gen.Default.rcInit]

theorem rcUpdate_eq : Gen.rcUpdate (K := K) = Gen.Default.rcUpdate := by
  same_gen [Gen.rcUpdate, Gen.Default.rcUpdate]

theorem rcUpdateFromIt_eq : Gen.rcUpdateFromIt (K := K) = Gen.Default.rcUpdateFromIt := by
  same_gen [Gen.rcUpdateFromIt, Gen.Default.rcUpdateFromIt, rcUpdate_eq]

theorem rcCovar_eq : Gen.rcCovar (K := K) = Gen.Default.rcCovar := by
  same_gen [Gen.rcCovar, Gen.Default.rcCovar]

theorem rcSampleCovar_eq : Gen.rcSampleCovar (K := K) = Gen.Default.rcSampleCovar := by
  same_gen [Gen.rcSampleCovar, Gen.Default.rcSampleCovar]

end

/-! ### the same statements about the translated definitions
Word for word those of `Dflt`, with `Gen.x` for `Gen.Default.x`; each is `x_eq` and then its `Dflt` twin. -/

omit [IsStrictOrderedRing K] in
/-- `RunningStatistics.__init__` -/
theorem rsInit_refines : Gen.rsInit (K := K) = RS.init.toK :=
  rsInit_eq.trans Dflt.rsInit_refines

/-- `RunningStatistics.update` -/
theorem rsUpdate_refines (s : RS) (x : ℚ) :
    Gen.rsUpdate ((s.count : ℤ) : K) (s.mean : K) (s.M2 : K) (x : K) = (s.update x).toK := by
  rw [rsUpdate_eq]; exact Dflt.rsUpdate_refines s x

/-- `RunningStatistics.update_from_it` -/
theorem rsUpdateFromIt_refines (s : RS) (xs : List ℚ) :
    Gen.rsUpdateFromIt ((s.count : ℤ) : K) (s.mean : K) (s.M2 : K) (xs.map (Rat.cast : ℚ → K)) = (s.updateFromIt xs).toK := by
  rw [rsUpdateFromIt_eq]; exact Dflt.rsUpdateFromIt_refines s xs

/-- `RunningStatistics.var` of an object that has seen a sample -/
theorem rsVar_refines (abs sqrt : K → K) (inf : K) (s : RS) (hc : s.count ≠ 0) :
    Gen.rsVar abs sqrt inf ((s.count : ℤ) : K) (s.mean : K) (s.M2 : K) = ((s.var : ℚ) : K) := by
  rw [rsVar_eq]; exact Dflt.rsVar_refines abs sqrt inf s hc

/-- `var` of a fresh object is `np.inf` -/
theorem rsVar_fresh (abs sqrt : K → K) (inf : K) (mean M2 : K) :
    Gen.rsVar abs sqrt inf 0 mean M2 = inf ∧ Gen.rsStd abs sqrt inf 0 mean M2 = inf ∧
    Gen.rsErr abs sqrt inf 0 mean M2 = inf ∧ Gen.rsRelErr abs sqrt inf 0 mean M2 = inf := by
  rw [rsVar_eq, rsStd_eq, rsErr_eq, rsRelErr_eq]; exact Dflt.rsVar_fresh abs sqrt inf mean M2

/-- `std`, `err`: squares of the translated values are the model's `var`, `errSq` -/
theorem rsStd_sq (abs sqrt : K → K) (hsqrt : IsSqrt sqrt) (inf : K) (s : RS) (hc : 0 < s.count) (hM : 0 ≤ s.M2) :
    0 ≤ Gen.rsStd abs sqrt inf ((s.count : ℤ) : K) (s.mean : K) (s.M2 : K) ∧
    Gen.rsStd abs sqrt inf ((s.count : ℤ) : K) (s.mean : K) (s.M2 : K) *
      Gen.rsStd abs sqrt inf ((s.count : ℤ) : K) (s.mean : K) (s.M2 : K) = ((s.var : ℚ) : K) := by
  rw [rsStd_eq]; exact Dflt.rsStd_sq abs sqrt hsqrt inf s hc hM

/-- `RunningStatistics.err` -/
theorem rsErr_sq (abs sqrt : K → K) (hsqrt : IsSqrt sqrt) (inf : K) (s : RS) (hc : 0 < s.count) (hM : 0 ≤ s.M2) :
    0 ≤ Gen.rsErr abs sqrt inf ((s.count : ℤ) : K) (s.mean : K) (s.M2 : K) ∧
    Gen.rsErr abs sqrt inf ((s.count : ℤ) : K) (s.mean : K) (s.M2 : K) *
      Gen.rsErr abs sqrt inf ((s.count : ℤ) : K) (s.mean : K) (s.M2 : K) = ((s.errSq : ℚ) : K) := by
  rw [rsErr_eq]; exact Dflt.rsErr_sq abs sqrt hsqrt inf s hc hM

/-- `RunningStatistics.converged(rtol, atol)` -/
theorem rsConverged_refines (sqrt : K → K) (hsqrt : IsSqrt sqrt) (inf : K) (s : RS) (hc : 0 < s.count) (hM : 0 ≤ s.M2)
    (rtol atol : ℚ) :
    Gen.rsConverged (fun a => |a|) sqrt inf ((s.count : ℤ) : K) (s.mean : K) (s.M2 : K) (rtol : K) (atol : K)
      = s.converged rtol atol := by
  rw [rsConverged_eq]; exact Dflt.rsConverged_refines sqrt hsqrt inf s hc hM rtol atol

/-- `RunningCovariance.__init__` -/
theorem rcInit_refines : Gen.rcInit (K := K) = RC.init.toK :=
  rcInit_eq.trans Dflt.rcInit_refines

/-- `RunningCovariance.update` -/
theorem rcUpdate_refines (s : RC) (x y : ℚ) :
    Gen.rcUpdate ((s.count : ℤ) : K) (s.xmean : K) (s.ymean : K) (s.C : K) (x : K) (y : K) = (s.update (x, y)).toK := by
  rw [rcUpdate_eq]; exact Dflt.rcUpdate_refines s (x, y)

/-- `RunningCovariance.update_from_it` -/
theorem rcUpdateFromIt_refines (s : RC) (xs ys : List ℚ) :
    Gen.rcUpdateFromIt ((s.count : ℤ) : K) (s.xmean : K) (s.ymean : K) (s.C : K)
        (xs.map (Rat.cast : ℚ → K)) (ys.map (Rat.cast : ℚ → K)) = (s.updateFromIt (xs.zip ys)).toK := by
  rw [rcUpdateFromIt_eq]; exact Dflt.rcUpdateFromIt_refines s xs ys

/-- `RunningCovariance.covar` / `sample_covar` -/
theorem rcCovar_refines (s : RC) :
    Gen.rcCovar ((s.count : ℤ) : K) (s.xmean : K) (s.ymean : K) (s.C : K) = ((s.covar : ℚ) : K) ∧
    Gen.rcSampleCovar ((s.count : ℤ) : K) (s.xmean : K) (s.ymean : K) (s.C : K) = ((s.sampleCovar : ℚ) : K) := by
  rw [rcCovar_eq, rcSampleCovar_eq]; exact Dflt.rcCovar_refines s

/-- either text of `estimate_from_repeats`, the translated one or the last-good one, is the model's loop: its callees
are the last-good ones (by the equalities above), every path of its body returns the same state, and it breaks iff
`stopNow`, whatever the spelling and nesting of the source's tests -/
theorem loop_of_either
    (est : (K → K) → (K → K) → K → (ℕ → K) → ℕ → K → K → Bool → Bool → ℤ → ℤ → Gen.EstResult K × ℕ)
    (hest : est = Gen.estimateFromRepeats ∨ est = Gen.Default.estimateFromRepeats)
    (sqrt : K → K) (hsqrt : IsSqrt sqrt) (inf : K) (f : ℕ → ℚ) (P : Params) (gs gm : Bool) (fuel : ℕ) :
    est (fun a => |a|) sqrt inf (fun n => ((f n : ℚ) : K)) fuel (P.rtol : K) (P.tolScale : K) gs gm P.minSamples P.maxSamples
      = estResult gs gm f (loop f P fuel 0 RS.init) := by
  have hstep : ∀ n : ℕ, Gen.Default.rsUpdate ((run (pre f n)).count : K) ((run (pre f n)).mean : K) ((run (pre f n)).M2 : K)
      ((f n : ℚ) : K) = (run (pre f (n + 1))).toK := fun n => by
    rw [run_pre_succ]; exact Dflt.rsUpdate_refines _ _
  have hconv : ∀ n : ℕ, Gen.Default.rsConverged (fun a => |a|) sqrt inf ((run (pre f (n + 1))).count : K)
      ((run (pre f (n + 1))).mean : K) ((run (pre f (n + 1))).M2 : K) (P.rtol : K) ((P.tolScale : K) * (P.rtol : K))
      = (run (pre f (n + 1))).converged P.rtol (P.tolScale * P.rtol) := fun n => by
    rw [← Rat.cast_mul]
    exact Dflt.rsConverged_refines sqrt hsqrt inf _ (by rw [count_run_pre]; positivity) (M2_nonneg _) _ _
  rcases hest with rfl | rfl <;>
  · simp only [Gen.estimateFromRepeats, Gen.Default.estimateFromRepeats, rsInit_eq, rsUpdate_eq, rsConverged_eq]
    rw [forCount_loop gs f P (fuel := fuel) (n := 0) (i := 0) (hi := rfl) (hbody := ?_) (hst := ?_)]
    · -- after the loop: the `get=` modes
      simp only [estResult, loopSt, RS.toK, xsOf, show run (pre f 0) = RS.init from rfl]
      cases gs <;> cases gm <;> simp
    · -- one iteration (`hbody`)
      intro n
      simp only [loopSt_run, RS.toK, hstep, hconv, xsOf_succ, pair_ite, Prod.mk.injEq, true_and, stopNow,
        Gen.repCheck, Gen.Default.repCheck, Gen.repHitMax, Gen.Default.repHitMax, Gen.repRtol, Gen.Default.repRtol,
        Gen.repAtol, Gen.Default.repAtol]
      by_cases h1 : (n : ℤ) > P.minSamples <;>
        by_cases h2 : (n : ℤ) ≥ P.maxSamples - 1 <;>
        cases (run (pre f (n + 1))).converged P.rtol (P.tolScale * P.rtol) <;>
        -- `try omega`: for a source that spells an integer test differently (`i + 1 >= max_samples`), arithmetic
        (simp [h1, h2]; try omega)
    · -- before the loop (`hst`)
      simp [loopSt, xsOf, Dflt.rsInit_refines, RS.toK, RS.init, pre, run_nil]

namespace Dflt
/-- the translated function with `fuel` iterations allowed is the model's loop with that fuel, then the `get=` modes -/
theorem estimateFromRepeats_loop (sqrt : K → K) (hsqrt : IsSqrt sqrt) (inf : K) (f : ℕ → ℚ) (P : Params)
    (gs gm : Bool) (fuel : ℕ) :
    Gen.Default.estimateFromRepeats (fun a => |a|) sqrt inf (fun n => ((f n : ℚ) : K)) fuel
        (P.rtol : K) (P.tolScale : K) gs gm P.minSamples P.maxSamples
      = estResult gs gm f (loop f P fuel 0 RS.init) :=
  loop_of_either _ (Or.inr rfl) sqrt hsqrt inf f P gs gm fuel
end Dflt

/-- the translated function with `fuel` iterations allowed is the model's loop with that fuel, then the `get=` modes -/
theorem estimateFromRepeats_loop (sqrt : K → K) (hsqrt : IsSqrt sqrt) (inf : K) (f : ℕ → ℚ) (P : Params)
    (gs gm : Bool) (fuel : ℕ) :
    Gen.estimateFromRepeats (fun a => |a|) sqrt inf (fun n => ((f n : ℚ) : K)) fuel
        (P.rtol : K) (P.tolScale : K) gs gm P.minSamples P.maxSamples
      = estResult gs gm f (loop f P fuel 0 RS.init) :=
  loop_of_either _ (Or.inl rfl) sqrt hsqrt inf f P gs gm fuel

/-- **refinement**: `Stats.estimate` is the translated `estimate_from_repeats` (every `get=` mode, any exact square root,
whatever `np.inf` stands for) -/
theorem estimateFromRepeats_refines (sqrt : K → K) (hsqrt : IsSqrt sqrt) (inf : K) (f : ℕ → ℚ) (P : Params)
    (gs gm : Bool) :
    Gen.estimateFromRepeats (fun a => |a|) sqrt inf (fun n => ((f n : ℚ) : K)) (max 1 P.maxSamples.toNat)
        (P.rtol : K) (P.tolScale : K) gs gm P.minSamples P.maxSamples
      = estResult gs gm f (estimate f P) :=
  estimateFromRepeats_loop sqrt hsqrt inf f P gs gm _

/-- the same with any fuel from `max_samples` on -/
theorem estimateFromRepeats_refines_fuel (sqrt : K → K) (hsqrt : IsSqrt sqrt) (inf : K) (f : ℕ → ℚ) (P : Params)
    (gs gm : Bool) (hmax : 1 ≤ P.maxSamples) (fuel : ℕ) (hf : P.maxSamples.toNat ≤ fuel) :
    Gen.estimateFromRepeats (fun a => |a|) sqrt inf (fun n => ((f n : ℚ) : K)) fuel
        (P.rtol : K) (P.tolScale : K) gs gm P.minSamples P.maxSamples
      = estResult gs gm f (estimate f P) := by
  rw [estimateFromRepeats_loop sqrt hsqrt inf f P gs gm fuel, loop_fuel f P hmax fuel hf]

end generic
end Stats
