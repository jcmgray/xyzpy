import XyzProofs.Lemmas.Harvest
import XyzProofs.Lemmas.StoreSkel
import XyzProofs.Lemmas.TwoMode
/-!
# The Harvester's storage methods: the hand-written model IS the translated source (state skeletons)

`Gen.hvLoadFull`, `Gen.hvSaveFull`, `Gen.hvAddDs` are regenerated on every run from the bodies of
`Harvester.load_full_ds`, `save_full_ds`, `add_ds` (harness/anchors_st.py): functions over an abstract state and a record
of operations `Gen.StoreOps`.  Here the operations get their meaning on the model's store (`Harvest.ops`), and the
hand-written `Harvest.loadFull`, `Harvest.saveFullNew`, `Harvest.addDs` are shown to be these functions at that
instance — the session exactly, the store up to the finite map it represents (`SameMap`: the model keeps an association
list, and "write aside then move over" leaves the entries in another order than "remove then write"; every observation
of the model — `load`, `shas` — is a function of the map).
-/
namespace Harvest
open DS StoreIO Gen

/-- the temporary next to a path (`<dir>/.tmp-<pid>-<base>`): some other name -/
def tmpOf (p : String) : String := ".tmp-" ++ p

/-- the path a `NameRef` denotes for a Harvester with this data name and engine -/
def refPath (name : String) (own : Engine) : NameRef Engine → String
  | .bare => name
  | .ext g => autoAddExt name (g.getD own)
  | .tmp r => tmpOf (refPath name own r)

abbrev HS := Store × Session

/-- the operations of `Gen.StoreOps` on the model's store.  Assumptions of the instance (the model has no permission
bits, directories or dask): the three file queries are "the path is in the store"; `save_ds` on a temporary name
writes that very name (it already carries the extension); an engine of `None` reaching a library call is an error.
`concat` (the Sampler's) is not used by the Harvester's methods and is a dummy; so is the `.xyzError` case of `raised`
as long as every theorem is about a Harvester with a data name. -/
def ops : StoreOps HS Dataset Engine Err where
  raised := fun e => match e with
    | .xyzError => .noData
    | _ => .notWritable
  selfEngine := fun s => s.2.engine
  isZarr := fun g => g == some .zarr
  memIsNone := fun s => s.2.mem.isNone
  mem := fun s => s.2.mem.getD {}
  setMem := fun s d => (s.1, { s.2 with mem := some d })
  accessW := fun s r => shas s.1 (refPath s.2.name s.2.engine r)
  isFile := fun s r => shas s.1 (refPath s.2.name s.2.engine r)
  pathExists := fun s r => shas s.1 (refPath s.2.name s.2.engine r)
  loadData := fun s r g =>
    match g with
    | none => .error .io
    | some e =>
      match load s.1 (refPath s.2.name s.2.engine r) e with
      | .ok d => .ok d
      | .error _ => .error .io
  saveData := fun s d r g =>
    match g with
    | none => (s, some .io)
    | some e =>
      match r with
      | .tmp r' => ((sset s.1 (tmpOf (refPath s.2.name s.2.engine r')) ⟨e, coerceAttrs e d⟩, s.2), none)
      | r => ((save s.1 (refPath s.2.name s.2.engine r) e d, s.2), none)
  afterSave := fun g d => match g with | some e => coerceAttrs e d | none => d
  replace := fun s a b =>
    match alookup s.1 (refPath s.2.name s.2.engine a) with
    | none => (s, some .io)
    | some f => ((sset (serase s.1 (refPath s.2.name s.2.engine a)) (refPath s.2.name s.2.engine b) f, s.2), none)
  remove := fun s r =>
    if shas s.1 (refPath s.2.name s.2.engine r) then ((serase s.1 (refPath s.2.name s.2.engine r), s.2), none)
    else (s, some .io)
  rmtree := fun s r =>
    if shas s.1 (refPath s.2.name s.2.engine r) then ((serase s.1 (refPath s.2.name s.2.engine r), s.2), none)
    else (s, some .io)
  copy := id
  merge := fun k old new => mergeBy k old new
  concat := fun a _ => a

/-- two stores representing the same finite map; what the model observes of a store (`load`, `shas`) depends on the map only -/
def SameMap (a b : Store) : Prop := ∀ k, alookup a k = alookup b k

theorem SameMap.refl (a : Store) : SameMap a a := fun _ => rfl
theorem SameMap.load {a b : Store} (h : SameMap a b) (name : String) (e : Engine) : load a name e = load b name e := by
  simp [StoreIO.load, loadVia, h _]
theorem SameMap.shas {a b : Store} (h : SameMap a b) (k : String) : shas a k = shas b k := by
  simp [StoreIO.shas, h _]

/-- `Harvester.load_full_ds()` as translated, at the model's instance, is `Harvest.loadFull` -/
theorem hvLoadFull_refines (store : Store) (s : Session) :
    Gen.hvLoadFull ops none (store, s) =
      match loadFull store s with
      | .ok s1 => ((store, s1), none)
      | .error e => ((store, s), some e) := by
  simp only [Gen.hvLoadFull, Gen.Default.hvLoadFull, loadFull, hvAccessPath_eq, hvIsfilePath_eq, ops, refPath, Option.isNone_none, if_true,
    Option.getD_some]
  by_cases hx : shas store (autoAddExt s.name s.engine) = true
  · simp only [hx, if_true]
    cases load store s.name s.engine <;> rfl
  · simp [hx]

/-- the same for the committed last-good text: a caller that fell back mentions that one, and with both lemmas in its `simp`
set nothing is asked of the two texts being the same function (the idiom of `Missing.isCaseMissing_refines_default`) -/
theorem hvLoadFull_refines_default (store : Store) (s : Session) :
    Gen.Default.hvLoadFull ops none (store, s) =
      match loadFull store s with
      | .ok s1 => ((store, s1), none)
      | .error e => ((store, s), some e) := by
  simp only [Gen.Default.hvLoadFull, loadFull, hvAccessPath_eq, hvIsfilePath_eq, ops, refPath, Option.isNone_none, if_true,
    Option.getD_some]
  by_cases hx : shas store (autoAddExt s.name s.engine) = true
  · simp only [hx, if_true]
    cases load store s.name s.engine <;> rfl
  · simp [hx]

/-- a per-call engine equal to the Harvester's own changes nothing -/
theorem hvLoadFull_own_engine (store : Store) (s : Session) :
    Gen.hvLoadFull ops (some s.engine) (store, s) = Gen.hvLoadFull ops none (store, s) :=
  rfl -- the engine used is `some s.engine` on both sides, given or taken from `self`: the two sides compute to one term

theorem tmpOf_ne (p : String) : p ≠ tmpOf p := by
  intro h
  have := congrArg String.length h
  simp [tmpOf, String.length_append] at this

/-- for the engines whose file is swapped in one go (not zarr), `save_full_ds(new)` as translated is `swapIn` on the name
with the extension — for any operations -/
theorem hvSaveFull_eq_swapIn {S D G E : Type} (o : StoreOps S D G E) (d : D) (g : Option G) (st : S)
    (hz : o.isZarr (if g.isNone then some (o.selfEngine st) else g) = false) :
    Gen.hvSaveFull o false true d g st =
      swapIn o d (if g.isNone then some (o.selfEngine st) else g) (.ext (if g.isNone then some (o.selfEngine st) else g)) st := by
  -- by cases on how the writer and the move end and on whether the temporary is still there, both sides compute: it does
  -- not matter how the body spells the test of its `finally`
  simp only [Gen.hvSaveFull, Gen.Default.hvSaveFull, swapIn]
  generalize (if g.isNone = true then some (o.selfEngine st) else g) = eng at hz ⊢
  simp only [hz, Bool.false_eq_true, if_false, if_true]
  rcases h1 : o.saveData st d (.tmp (.ext eng)) eng with ⟨s1, _ | e1⟩
  · rcases h2 : o.replace s1 (.tmp (.ext eng)) (.ext eng) with ⟨s2, _ | e2⟩ <;>
      cases h3 : o.pathExists s2 (.tmp (.ext eng)) <;>
      simp only [h1, h2, h3, stBind_pure, stBind_ok, stBind_err, stFinally_ok, stFinally_err, Bool.false_eq_true, if_false,
        if_true, Bool.not_true, Bool.not_false, Option.getD_none]
  · cases h3 : o.pathExists s1 (.tmp (.ext eng)) <;>
      simp only [h1, h3, stBind_pure, stBind_err, stFinally_err, Bool.false_eq_true, if_false, if_true, Bool.not_true,
        Bool.not_false, Option.getD_none]

/-- the last-good text of `save_full_ds(new)` and its translation are the same function.  `hvAddDs_eq_spec` needs this when
`add_ds` itself could not be translated (its last-good text mentions the last-good `save_full_ds`); nothing is asked of the
two texts being alike: the swap-in engines go through `swapIn`, a zarr store by cases on what the body tests and on how
its operations end -/
theorem hvSaveFull_default_eq {S D G E : Type} (o : StoreOps S D G E) (d : D) (g : Option G) (st : S) :
    Gen.Default.hvSaveFull o false true d g st = Gen.hvSaveFull o false true d g st := by
  first
  | rfl
  | (by_cases hz : o.isZarr (if g.isNone then some (o.selfEngine st) else g) = false
     · have hd : Gen.Default.hvSaveFull o false true d g st = swapIn o d (if g.isNone then some (o.selfEngine st) else g)
           (.ext (if g.isNone then some (o.selfEngine st) else g)) st := by
         simp only [Gen.Default.hvSaveFull, swapIn, hz, stBind_pure, Bool.false_eq_true, if_false, if_true]
       rw [hd, hvSaveFull_eq_swapIn o d g st hz]
     · have hz' : o.isZarr (if g.isNone then some (o.selfEngine st) else g) = true := by simpa using hz
       simp only [Gen.hvSaveFull, Gen.Default.hvSaveFull]
       generalize (if g.isNone = true then some (o.selfEngine st) else g) = eng at hz' ⊢
       -- (nothing is left when the two texts spell the zarr branch alike)
       simp only [hz', Bool.false_eq_true, if_false, if_true] <;>
         (cases h1 : o.pathExists st (.ext eng)
          · rcases h3 : o.saveData (o.setMem st d) (o.mem (o.setMem st d)) .bare eng with ⟨s2, _ | e2⟩ <;>
              simp [h1, h3, stBind_pure]
          · rcases h2 : o.rmtree st (.ext eng) with ⟨s1, _ | e1⟩
            · rcases h3 : o.saveData (o.setMem s1 d) (o.mem (o.setMem s1 d)) .bare eng with ⟨s2, _ | e2⟩ <;>
                simp [h1, h2, h3, stBind_pure]
            · simp [h1, h2, stBind_pure]))

/-- **`save_full_ds(new_full_ds)` as translated** (write aside, move over, clean up, then set memory), on a store that
holds no stale temporary of this name, for the engines whose file is swapped in one go: it succeeds, memory is the
dataset as the writer left it, the data path holds it, NO other path changed (the temporary is gone again) — the same
finite map and the same session as the model's `saveFullNew`. -/
theorem hvSaveFull_refines (store : Store) (s : Session) (d : Dataset) (hz : s.engine ≠ .zarr)
    (ht : alookup store (tmpOf (autoAddExt s.name s.engine)) = none) :
    ∃ store', Gen.hvSaveFull ops false true d none (store, s) =
        ((store', { s with mem := some (coerceAttrs s.engine d) }), none) ∧
      ∃ store'', saveFullNew store s d = .ok (store'', { s with mem := some (coerceAttrs s.engine d) }) ∧
        SameMap store' store'' := by
  obtain ⟨store'', hm, _, hP, hoth⟩ := saveFullNew_spec store s d
  refine ⟨sset (serase (sset store (tmpOf (autoAddExt s.name s.engine)) ⟨s.engine, coerceAttrs s.engine d⟩)
      (tmpOf (autoAddExt s.name s.engine))) (autoAddExt s.name s.engine) ⟨s.engine, coerceAttrs s.engine d⟩, ?_, store'', hm, ?_⟩
  · rw [hvSaveFull_eq_swapIn ops d none (store, s) (by simp [ops, hz])]
    -- `swapIn` step by step on the store: the temporary is written, moved over the data path, not there to be removed
    simp [swapIn, ops, refPath, alookup_sset, alookup_serase, shas, tmpOf_ne, stFinally, stBind]
  · intro k
    by_cases hk : k = autoAddExt s.name s.engine
    · subst hk; rw [hP]; simp [alookup_sset]
    · rw [hoth k hk]
      by_cases hkt : tmpOf (autoAddExt s.name s.engine) = k
      · subst hkt; simp [alookup_sset, alookup_serase, Ne.symm hk, ht]
      · simp [alookup_sset, alookup_serase, Ne.symm hk, hkt]

/-- when the writer fails and leaves no temporary behind, the call ends there, in the state the writer reached and with
the writer's exception: nothing is moved over the data file and memory is not set -/
theorem hvSaveFull_order (o : StoreOps HS Dataset Engine Err) (store : Store) (s : Session) (d : Dataset) (e : Err)
    (s' : HS) (hz : o.isZarr (some (o.selfEngine (store, s))) = false)
    (hfail : o.saveData (store, s) d (.tmp (.ext (some (o.selfEngine (store, s))))) (some (o.selfEngine (store, s))) = (s', some e))
    (hgone : o.pathExists s' (.tmp (.ext (some (o.selfEngine (store, s))))) = false) :
    Gen.hvSaveFull o false true d none (store, s) = (s', some e) := by
  rw [hvSaveFull_eq_swapIn o d none (store, s) hz]
  simp [swapIn, hfail, hgone, stFinally, stBind]

/-- the part of `add_ds` after the optional re-read: merge the new data into what is in memory (or take a copy of it when
there is nothing); when syncing save the result through `save_full_ds` (which also sets memory), else just set memory -/
def addDsTail {S D G E : Type} (o : StoreOps S D G E) (dataNameNone sync : Bool) (ow : Option Bool) (N : D)
    (g : Option G) (st : S) : S × Option E :=
  match (if o.memIsNone st then Except.ok (o.copy N) else o.merge (owKind ow) (o.mem st) N) with
  | .error e => (st, some e)
  | .ok M => if (sync && !dataNameNone) then Gen.hvSaveFull o dataNameNone true M g st else (o.setMem st M, none)

/-- `add_ds` in one line: re-read the file when syncing, then `addDsTail`.  A failed re-read, merge or save ends the
call in the state reached. -/
def addDsSpec {S D G E : Type} (o : StoreOps S D G E) (dataNameNone sync : Bool) (ow : Option Bool) (N : D)
    (g : Option G) (st : S) : S × Option E :=
  stBind (if (sync && !dataNameNone) then Gen.hvLoadFull o g st else (st, none)) (addDsTail o dataNameNone sync ow N g)

/-- **the translated body of `Harvester.add_ds` is `addDsSpec`** — for any state type and any operations: the order
(re-read, merge, save-or-set), the dispatch of `overwrite`, the arguments handed to `load_full_ds` / `save_full_ds` -/
theorem hvAddDs_eq_spec {S D G E : Type} (o : StoreOps S D G E) (dataNameNone sync : Bool) (ow : Option Bool) (N : D)
    (g : Option G) (st : S) :
    Gen.hvAddDs o dataNameNone sync ow N g st = addDsSpec o dataNameNone sync ow N g st := by
  simp only [Gen.hvAddDs, Gen.Default.hvAddDs, addDsSpec, stBind_pure]
  same_callee Gen.Default.hvLoadFull Gen.hvLoadFull
  -- by cases on everything the body tests.  `sync` and (with `sync`) the data name decide whether the file is re-read and
  -- whether the result is saved or only kept; where it is re-read it matters how the re-read ends
  cases sync
  case' true => cases dataNameNone
  all_goals
    simp only [addDsTail, Bool.and_true, Bool.and_false, Bool.true_and, Bool.false_and, Bool.not_true, Bool.not_false,
      Bool.false_eq_true, if_true, if_false, stBind_ok]
  case' true.false =>
    rcases Gen.hvLoadFull o g st with ⟨st1, _ | e⟩ <;> simp only [stBind_ok, stBind_err, hvSaveFull_default_eq]
  case' false => generalize st = st1
  case' true.true => generalize st = st1
  -- then what is in memory and the `overwrite` value
  all_goals
    by_cases hm : o.memIsNone st1 = true
    · simp [addDsTail, hm]
    · -- after `simp` the two sides differ only in which auxiliary function spells the same `match`: `rfl` sees through it
      rcases ow with _ | _ | _ <;> simp [addDsTail, hm, owKind] <;> rfl

/-- **`Harvester.add_ds(N, sync, overwrite)` as translated, at the model's instance, is `Harvest.addDs`**: same error (or
none), same session afterwards (memory), and a store representing the same finite map — for every policy, with and
without `sync`, whatever is in memory and on disk. -/
theorem hvAddDs_refines (st : St) (sid : Nat) (s : Session) (N : Dataset) (pol : Policy) (sync : Bool)
    (hs : st.sessions[sid]? = some s) (hz : s.engine ≠ .zarr)
    (ht : alookup st.store (tmpOf (autoAddExt s.name s.engine)) = none) :
    (Gen.hvAddDs ops false sync (polArg pol) N none (st.store, s)).2 = (addDs st sid N pol sync).2 ∧
    (addDs st sid N pol sync).1.sessions = st.sessions.set sid (Gen.hvAddDs ops false sync (polArg pol) N none (st.store, s)).1.2 ∧
    SameMap (Gen.hvAddDs ops false sync (polArg pol) N none (st.store, s)).1.1 (addDs st sid N pol sync).1.store := by
  rw [hvAddDs_eq_spec]
  simp only [addDsSpec, Bool.not_false, Bool.and_true]
  -- both sides first decide what is in memory when the merge happens: `s1`
  have key : ∀ s1 : Session, preload st.store s sync = .ok s1 →
      stBind (if sync = true then Gen.hvLoadFull ops none (st.store, s) else ((st.store, s), none))
          (addDsTail ops false sync (polArg pol) N none) =
        addDsTail ops false sync (polArg pol) N none (st.store, s1) := by
    intro s1 hp
    cases sync with
    | false => simp [preload] at hp; subst hp; simp [stBind]
    | true =>
      simp only [preload, if_true] at hp
      simp [hvLoadFull_refines, hp, stBind]
  cases hp : preload st.store s sync with
  | error e =>
    -- only the re-read of a synced call can fail, and then nothing else happens
    cases sync with
    | false => simp [preload] at hp
    | true =>
      simp only [preload, if_true] at hp
      simp [addDs, hs, preload, hp, hvLoadFull_refines, stBind, SameMap, set_self _ _ _ hs]
  | ok s1 =>
    obtain ⟨hn, he⟩ := preload_fields _ _ _ _ hp
    rw [key s1 hp]
    have hmerge : (if ops.memIsNone (st.store, s1) then Except.ok (ops.copy N)
        else ops.merge (owKind (polArg pol)) (ops.mem (st.store, s1)) N) = mergeInto s1.mem (addDsKind pol) N := by
      rw [addDsKind_eq]
      cases hm : s1.mem <;> simp [ops, mergeInto, hm]
    simp only [addDsTail, hmerge, Bool.not_false, Bool.and_true]
    cases hM : mergeInto s1.mem (addDsKind pol) N with
    | error e => simp [addDs, hs, hp, hM, setSession, SameMap]
    | ok M =>
      cases sync with
      | false => simp [addDs, hs, hp, hM, setSession, SameMap, ops]
      | true =>
        obtain ⟨store', hr, store'', hm', hsame⟩ := hvSaveFull_refines st.store s1 M (by rw [he]; exact hz)
          (by rw [hn, he]; exact ht)
        simp [addDs, hs, hp, hM, hr, hm', hsame]

-- non-vacuity of `hvAddDs_refines`: a session over a store that holds an earlier file and no stale temporary
example : ∃ (st : St) (s : Session), st.sessions[0]? = some s ∧ s.engine ≠ .zarr ∧
    alookup st.store (tmpOf (autoAddExt s.name s.engine)) = none ∧ shas st.store (autoAddExt s.name s.engine) = true := by
  refine ⟨{ store := [("h.dmp", ⟨.joblib, {}⟩)], sessions := [{ name := "h", engine := .joblib }] },
    { name := "h", engine := .joblib }, rfl, nofun, by decide +kernel, by decide +kernel⟩

/-- file operations do not touch what is in memory -/
structure FileOpsKeepMem {S D G E : Type} (o : StoreOps S D G E) : Prop where
  save : ∀ st d r g, o.mem (o.saveData st d r g).1 = o.mem st ∧ o.memIsNone (o.saveData st d r g).1 = o.memIsNone st
  replace : ∀ st a b, o.mem (o.replace st a b).1 = o.mem st ∧ o.memIsNone (o.replace st a b).1 = o.memIsNone st
  remove : ∀ st r, o.mem (o.remove st r).1 = o.mem st ∧ o.memIsNone (o.remove st r).1 = o.memIsNone st

/-- **memory is set last**: whatever the operations do, if `save_full_ds(new)` (swap-in engines) raises, the Harvester's
in-memory dataset is what it was before the call — memory never runs ahead of the file -/
theorem hvSaveFull_error_keeps_mem {S D G E : Type} (o : StoreOps S D G E) (hk : FileOpsKeepMem o) (d : D) (g : Option G)
    (st : S) (e : E)
    (hz : o.isZarr (if g.isNone then some (o.selfEngine st) else g) = false)
    (herr : (Gen.hvSaveFull o false true d g st).2 = some e) :
    o.mem (Gen.hvSaveFull o false true d g st).1 = o.mem st ∧
    o.memIsNone (Gen.hvSaveFull o false true d g st).1 = o.memIsNone st := by
  rw [hvSaveFull_eq_swapIn o d g st hz] at herr ⊢
  exact swapIn_error_keeps_mem o hk.save hk.replace hk.remove _ _ _ st e herr

/-- the model's operations satisfy the frame condition (non-vacuity of `hvSaveFull_error_keeps_mem`) -/
theorem ops_keep_mem : FileOpsKeepMem ops := by
  constructor
  · intro st d r g
    cases g <;> cases r <;> exact ⟨rfl, rfl⟩
  · intro st a b
    dsimp only [ops]
    split <;> exact ⟨rfl, rfl⟩
  · intro st r
    dsimp only [ops]
    split <;> exact ⟨rfl, rfl⟩

/-- **a failed merge writes nothing** (any operations): the state after `add_ds` is the state right after the re-read -/
theorem hvAddDs_merge_error_no_write {S D G E : Type} (o : StoreOps S D G E) (dn sync : Bool) (ow : Option Bool) (N : D)
    (g : Option G) (st st1 : S) (e : E)
    (hl : (if (sync && !dn) then Gen.hvLoadFull o g st else (st, none)) = (st1, none))
    (hmem : o.memIsNone st1 = false) (hm : o.merge (owKind ow) (o.mem st1) N = .error e) :
    Gen.hvAddDs o dn sync ow N g st = (st1, some e) := by
  rw [hvAddDs_eq_spec]
  simp only [addDsSpec]
  rw [hl]
  simp [stBind, addDsTail, hmem, hm]

-- non-vacuity: a conflicting merge at the model's instance
example : ∃ (st : HS) (N : Dataset) (e : Err),
    ops.memIsNone st = false ∧ ops.merge (owKind none) (ops.mem st) N = .error e := by
  refine ⟨([], { name := "h", engine := .joblib, mem := some { vars := [("x", ⟨[], [([], .v 1)]⟩)] } }),
    { vars := [("x", ⟨[], [([], .v 2)]⟩)] }, .conflict, by decide, by rfl⟩

end Harvest
