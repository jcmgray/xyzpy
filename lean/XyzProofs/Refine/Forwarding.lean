import XyzProofs.Lemmas.PyDict
import XyzModel.Gen.Extracted
/-!
# Argument forwarding of the labelled entry points — theorems on the records translated from the source

`Gen.flowRunnerInit`, `Gen.flowRunCombos`, `Gen.flowRunCases`, `Gen.flowLabel`, `Gen.flowHarvestCombos`,
`Gen.flowHarvestCases`, `Gen.flowGenCases`, `Gen.flowSampleCombos`, `Gen.flowComboToDs`, `Gen.flowCaseToDs` are regenerated
from xyzpy/gen/farming.py, combo_runner.py, case_runner.py on every run (harness/pyflow2lean.py, harness/anchors_flow.py):
for each entry point, which stored description / per-call argument reaches which parameter of which callee, and what the
body writes to objects that outlive the call.  The forwarding theorems are tables decided by evaluation, insensitive to
the order of keyword arguments, to positional vs keyword spelling and to local names.
-/
namespace Forwarding
open Gen

/-- simplify under the assumption that the test `c` came out as `b` -/
def assume (c : FlowE) (b : Bool) : FlowE → FlowE
  | .ite c' t e => if c' = c then (if b then assume c b t else assume c b e)
                   else .ite (assume c b c') (assume c b t) (assume c b e)
  | .attr e n => .attr (assume c b e) n
  | .item e k => .item (assume c b e) k
  | .merge x y => .merge (assume c b x) (assume c b y)
  | .ap f x => .ap (assume c b f) (assume c b x)
  | .kw n e => .kw n (assume c b e)
  | e => e

/-- the callee's parameters replaced by what a caller hands over (`σ n = none`: not given, the callee's default).  A
parameter not handed over stays `.param n`, which reads like the CALLER's parameter of that name: state `through` only about
keywords the caller does hand over (`splat` is not followed either). -/
def subst (σ : String → Option FlowE) : FlowE → FlowE
  | .param n => (σ n).getD (.param n)
  | .ite c t e => .ite (subst σ c) (subst σ t) (subst σ e)
  | .attr e n => .attr (subst σ e) n
  | .item e k => .item (subst σ e) k
  | .merge x y => .merge (subst σ x) (subst σ y)
  | .ap f x => .ap (subst σ f) (subst σ x)
  | .kw n e => .kw n (subst σ e)
  | e => e

/-- conditionals on a literal flag are decided -/
def norm : FlowE → FlowE
  | .ite c t e =>
    match norm c with
    | .lit "False" => norm e
    | .lit "True" => norm t
    | c' => .ite c' (norm t) (norm e)
  | .attr e n => .attr (norm e) n
  | .item e k => .item (norm e) k
  | .merge x y => .merge (norm x) (norm y)
  | .ap f x => .ap (norm f) (norm x)
  | .kw n e => .kw n (norm e)
  | e => e

def arg (c : FlowCall) (k : String) : Option FlowE := c.kws.lookup k

/-- the call hands over exactly the keyword arguments `expected` (in any order), nothing positionally left unnamed -/
def forwards (c : FlowCall) (expected : List (String × FlowE)) : Bool :=
  c.pos.isEmpty && c.kws.length == expected.length && expected.all fun p => decide (c.kws.lookup p.1 = some p.2)

def callUnder (t : FlowE) (b : Bool) (c : FlowCall) : FlowCall :=
  { c with kws := c.kws.map fun p => (p.1, assume t b p.2), pos := c.pos.map (assume t b), splat := c.splat.map (assume t b) }

/-- what a callee's argument is in terms of the CALLER's stored descriptions and parameters -/
def through (caller callee : FlowCall) (k : String) : Option FlowE :=
  (arg callee k).map fun e => norm (subst (arg caller) e)

/-- the attribute `a` of the object after the path, as a term over the state and the arguments on entry -/
def storedAfter (p : FlowPath) (a : String) : FlowE := (p.writes.lookup (.stored a)).getD (.stored a)

/-- only the attribute `a` is written, and no object handed in by the caller is changed -/
def writesOnly (p : FlowPath) (a : String) : Bool := p.writes.all fun w => decide (w.1 = .stored a)

theorem storedAfter_of_writesOnly (p : FlowPath) (a b : String) (h : writesOnly p a = true) (hb : b ≠ a) :
    storedAfter p b = .stored b := by
  unfold storedAfter
  have : p.writes.lookup (FlowE.stored b) = none := by
    rw [List.lookup_eq_none_iff]
    intro w hw
    have := (List.all_eq_true.mp h) w hw
    simp only [decide_eq_true_eq] at this
    simp [this, hb]
  rw [this]; rfl

section dicts
variable {V : Type}

/-- functions that hand back the content of a dict(-like) argument unchanged: `dict(x)` and the normaliser `dictify`
under its four names -/
def contentKeeping : List String := ["dict", "dictify", "parse_constants", "parse_resources", "parse_attrs", "parse_var_coords"]

/-- the association list a term denotes: `st a` the stored dict `self.<a>`, `pr n` the dict given as parameter `n`
(`[]` for an empty tuple / `None` where the source tests for it: `isNone n`) -/
def evalDict (st pr : String → List (String × V)) (isNone : String → Bool) : FlowE → Option (List (String × V))
  | .stored a => some (st a)
  | .param n => some (pr n)
  | .lit s => if s = "{}" ∨ s = "()" then some [] else none
  | .merge a b =>
    match evalDict st pr isNone a, evalDict st pr isNone b with
    | some x, some y => some (Py.dictUpdate x y)
    | _, _ => none
  | .ap (.fn f) x => if f ∈ contentKeeping then evalDict st pr isNone x else none
  | .ite (.ap (.fn "is None") (.param n)) t e => if isNone n then evalDict st pr isNone t else evalDict st pr isNone e
  | _ => none

/-- the keys of the first dict keep their places -/
theorem keys_update_prefix (d e : List (String × V)) : d.map Prod.fst <+: (Py.dictUpdate d e).map Prod.fst :=
  Py.keys_update_prefix d e

end dicts

/-- the `i`-th recorded call / path of a record (a dummy when there is none; the `*_forwards` / `*_flow` theorems also state
the counts).  An expectation `(k, argD c k)` asks only that the keyword `k` is handed over, not what it holds. -/
def call (F : Flow) (i : Nat) : FlowCall := F.calls.getD i ⟨.lit "<none>", [], [], [], []⟩
def path (F : Flow) (i : Nat) : FlowPath := F.paths.getD i ⟨[], .lit "<none>", []⟩
def argD (c : FlowCall) (k : String) : FlowE := (arg c k).getD (.lit "<none>")
/-- the name of the function at the head of an application -/
def headFn : FlowE → String
  | .ap f _ => headFn f
  | .fn s => s
  | _ => ""

def initTable : List (String × FlowE) :=
  [("fn", .param "fn"),
   ("_var_names", .ap (.fn "parse_var_names") (.param "var_names")),
   ("_fn_args", .ap (.ap (.fn "parse_fn_args") (.param "fn")) (.param "fn_args")),
   ("_var_dims", .ap (.ap (.fn "parse_var_dims") (.param "var_dims")) (.ap (.fn "parse_var_names") (.param "var_names"))),
   ("_var_coords", .ap (.fn "parse_var_coords") (.param "var_coords")),
   ("_constants", .ap (.fn "parse_constants") (.param "constants")),
   ("_resources", .ap (.fn "parse_resources") (.param "resources")),
   ("_attrs", .ap (.fn "parse_attrs") (.param "attrs")),
   ("default_runner_settings", .param "default_runner_settings")]

/-- **`Runner.__init__`**: each description is stored under its own name, parsed by its own parser (the dimensions
against the parsed variable names); no call is made and no argument object is changed -/
theorem runner_init_stores :
    Gen.flowRunnerInit.calls = [] ∧ Gen.flowRunnerInit.paths.length = 1 ∧
    (initTable.all fun e => decide (storedAfter (path Gen.flowRunnerInit 0) e.1 = e.2)) = true ∧
    ((path Gen.flowRunnerInit 0).writes.all fun w => match w.1 with | .stored _ => true | _ => false) = true := by
  decide +kernel

/-- the stored descriptions as the runner methods must hand them on (constants are treated apart: merged per run) -/
def descTable : List (String × FlowE) :=
  [("fn", .stored "fn"), ("var_names", .stored "_var_names"), ("var_dims", .stored "_var_dims"),
   ("var_coords", .stored "_var_coords"), ("resources", .stored "_resources"), ("attrs", .stored "_attrs"),
   ("parse", .lit "False")]

def runnerSplat : List FlowE := [.merge (.stored "default_runner_settings") (.param "runner_settings")]

/-- the `fn_args` in force in `run_cases`: the per-call ones, the runner's when none are given -/
def fnArgsInForce : FlowE := .ite (.ap (.fn "is None") (.param "fn_args")) (.stored "_fn_args") (.param "fn_args")

/-- **`run_combos` forwards every stored description** to `combo_runner_to_ds` under its own keyword, with
`parse=False`, the parsed combos, the per-run settings over the default ones; `constants` is the only other keyword -/
theorem run_combos_forwards :
    Gen.flowRunCombos.calls.length = 1 ∧
    let c := call Gen.flowRunCombos 0
    c.callee = .fn "combo_runner_to_ds" ∧ c.cond = [] ∧ c.splat = runnerSplat ∧
      forwards c (descTable ++ [("combos", .ap (.fn "parse_combos") (.param "combos")),
                                ("constants", argD c "constants")]) = true := by
  decide +kernel

/-- **`run_cases` forwards every stored description** to `case_runner_to_ds`, together with the `fn_args` in force and
the cases parsed against those same `fn_args` -/
theorem run_cases_forwards :
    Gen.flowRunCases.calls.length = 1 ∧
    let c := call Gen.flowRunCases 0
    c.callee = .fn "case_runner_to_ds" ∧ c.cond = [] ∧ c.splat = runnerSplat ∧
      forwards c (descTable ++ [("fn_args", fnArgsInForce),
        ("cases", .ap (.ap (.fn "parse_cases") (.param "cases")) fnArgsInForce), ("constants", argD c "constants")]) = true := by
  decide +kernel

/-- **`run_cases` with explicit `fn_args` zips with exactly those** (and hands exactly those on); with none given, the
runner's own -/
theorem run_cases_fn_args :
    let c := call Gen.flowRunCases 0
    let isNone : FlowE := .ap (.fn "is None") (.param "fn_args")
    (arg c "fn_args").map (assume isNone false) = some (.param "fn_args") ∧
    (arg c "cases").map (assume isNone false) = some (.ap (.ap (.fn "parse_cases") (.param "cases")) (.param "fn_args")) ∧
    (arg c "fn_args").map (assume isNone true) = some (.stored "_fn_args") ∧
    (arg c "cases").map (assume isNone true) = some (.ap (.ap (.fn "parse_cases") (.param "cases")) (.stored "_fn_args")) := by
  decide +kernel

section constants
variable {V : Type}

/-- **per-run constants win**: the `constants` handed on by `run_combos` / `run_cases` are the stored ones updated with
the per-run ones — whatever way the source spells the merge (see `per_run_wins` for what that means key by key) -/
theorem run_combos_constants (st pr : String → List (String × V)) (isNone : String → Bool) :
    (arg (call Gen.flowRunCombos 0) "constants").bind (evalDict st pr isNone)
      = some (Py.dictUpdate (st "_constants") (pr "constants")) := by
  simp [call, arg, List.lookup, Gen.flowRunCombos, Gen.Default.flowRunCombos, evalDict, contentKeeping]

theorem run_cases_constants (st pr : String → List (String × V)) (isNone : String → Bool) :
    (arg (call Gen.flowRunCases 0) "constants").bind (evalDict st pr isNone)
      = some (Py.dictUpdate (st "_constants") (pr "constants")) := by
  simp [call, arg, List.lookup, Gen.flowRunCases, Gen.Default.flowRunCases, evalDict, contentKeeping]

/-- a per-run constant has the per-run value, a name given only at construction keeps the stored value -/
theorem per_run_wins (stored perRun : List (String × V)) (hnd : (perRun.map Prod.fst).Nodup) (k : String) :
    (∀ v, (k, v) ∈ perRun → Py.dictGet (Py.dictUpdate stored perRun) k = some v) ∧
    (k ∉ perRun.map Prod.fst → Py.dictGet (Py.dictUpdate stored perRun) k = Py.dictGet stored k) :=
  ⟨fun v h => Py.get_update_mem perRun stored k v hnd h, Py.get_update_notin perRun stored k⟩

/-- **the run leaves the Runner's descriptions alone**: the only thing either method writes is `_last_ds`; in particular
the stored constants dict is not changed in place, nor is any object handed in by the caller -/
theorem run_keeps_descriptions :
    Gen.flowRunCombos.paths.length = 1 ∧ writesOnly (path Gen.flowRunCombos 0) "_last_ds" = true ∧
    Gen.flowRunCases.paths.length = 1 ∧ writesOnly (path Gen.flowRunCases 0) "_last_ds" = true := by
  decide +kernel

/-- the dict-valued attribute `a` after the path (`st a` when the path does not write it) -/
def stateAfter (p : FlowPath) (st pr : String → List (String × V)) (isNone : String → Bool) (a : String) :
    List (String × V) :=
  (evalDict st pr isNone (storedAfter p a)).getD (st a)

theorem stateAfter_of_writesOnly (p : FlowPath) (st pr : String → List (String × V)) (isNone : String → Bool)
    (w : String) (h : writesOnly p w = true) (a : String) (ha : a ≠ w) : stateAfter p st pr isNone a = st a := by
  unfold stateAfter
  rw [storedAfter_of_writesOnly p w a h ha]
  rfl

/-- **nothing lingers**: two consecutive runs of the same Runner, the first with any per-run constants, the second
with none: the second run's function is handed exactly the constants the Runner was built with -/
theorem run_twice_constants (st pr1 pr2 : String → List (String × V)) (isNone : String → Bool)
    (h2 : pr2 "constants" = []) :
    (arg (call Gen.flowRunCombos 0) "constants").bind
        (evalDict (stateAfter (path Gen.flowRunCombos 0) st pr1 isNone) pr2 isNone) = some (st "_constants") ∧
    (arg (call Gen.flowRunCases 0) "constants").bind
        (evalDict (stateAfter (path Gen.flowRunCases 0) st pr1 isNone) pr2 isNone) = some (st "_constants") := by
  obtain ⟨_, hw1, _, hw2⟩ := run_keeps_descriptions
  rw [run_combos_constants, run_cases_constants, h2, Py.update_nil, Py.update_nil,
    stateAfter_of_writesOnly _ st pr1 isNone _ hw1 _ (by decide), stateAfter_of_writesOnly _ st pr1 isNone _ hw2 _ (by decide)]
  exact ⟨rfl, rfl⟩

end constants

def labelTable : List (String × FlowE) :=
  ["fn", "var_names", "fn_args", "var_dims", "var_coords", "constants", "resources", "attrs"].map fun n => (n, .param n)

/-- **`label(...)(fn)`** builds the Runner from the decorator's arguments, each under its own name, and wraps THAT
runner as a Harvester / Sampler when asked -/
theorem label_forwards :
    Gen.flowLabel.calls.length = 3 ∧
    let r := call Gen.flowLabel 0; let h := call Gen.flowLabel 1; let s := call Gen.flowLabel 2
    r.callee = .fn "Runner" ∧ r.cond = [] ∧ forwards r labelTable = true ∧ r.splat = [.param "default_runner_settings"] ∧
      h.callee = .fn "Harvester" ∧ h.cond = [(.param "harvester", true)] ∧ arg h "runner" = some (.ret 0) ∧
      s.callee = .fn "Sampler" ∧ s.cond = [(.param "sampler", true)] ∧
      (arg s "runner").map (assume (.param "harvester") false) = some (.ret 0) := by
  decide +kernel

def addDsTable : List (String × FlowE) :=
  [("new_ds", .ret 0), ("sync", .param "sync"), ("overwrite", .param "overwrite"), ("chunks", .param "chunks"),
   ("engine", .param "engine")]

/-- **`harvest_combos` / `harvest_cases`** run through the runner's own `run_combos` / `run_cases` (so every stored
description is forwarded by `run_*_forwards`), with all the caller's runner settings, and merge what THAT run returned -/
theorem harvest_forwards :
    Gen.flowHarvestCombos.calls.length = 2 ∧ Gen.flowHarvestCases.calls.length = 2 ∧
    let r := call Gen.flowHarvestCombos 0; let a := call Gen.flowHarvestCombos 1
    let r' := call Gen.flowHarvestCases 0; let a' := call Gen.flowHarvestCases 1
    r.callee = .attr (.stored "runner") "run_combos" ∧ r.cond = [] ∧ r.pos = [] ∧ r.kws.map Prod.fst = ["combos"] ∧
      r.splat = [.param "runner_settings"] ∧ a.cond = [] ∧ forwards a addDsTable = true ∧
    r'.callee = .attr (.stored "runner") "run_cases" ∧ r'.cond = [] ∧ r'.pos = [] ∧ r'.kws = [("cases", .param "cases")] ∧
      r'.splat = [.param "runner_settings"] ∧ a'.cond = [] ∧ forwards a' addDsTable = true := by
  decide +kernel

/-- the combos a Sampler draws from: the defaults updated with the per-call ones -/
def samplerCombos : FlowE :=
  .merge (.stored "default_combos") (.ite (.ap (.fn "is None") (.param "combos")) (.lit "{}") (.ap (.fn "dict") (.param "combos")))

/-- **`gen_cases_fnargs`** returns the keys of the merged combos and rows drawn from that same dict.  (The generator of the
rows is known only as `expr<…>`: its name is read back from the record with `headFn`, and what is checked is what it is
applied to.) -/
theorem gen_cases_flow :
    Gen.flowGenCases.paths.length = 1 ∧ Gen.flowGenCases.calls = [] ∧
    let p := path Gen.flowGenCases 0
    p.writes = [] ∧
      p.ret = .ap (.ap (.fn "tuple") (.ap (.fn "tuple") (.attr samplerCombos "keys")))
                (.ap (.fn "tuple") (.ap (.ap (.fn (headFn (match p.ret with | .ap _ (.ap _ x) => x | _ => .lit ""))) (.param "n")) samplerCombos)) := by
  decide +kernel

/-- **`sample_combos`** hands `run_cases` the drawn rows together with, as `fn_args`, the keys of the very dict the rows
were drawn from (in that dict's order), asks for a DataFrame, passes every per-call setting on, records what that
run returned as `last_df` and appends it; the defaults are not changed -/
theorem sample_combos_flow :
    Gen.flowSampleCombos.calls.length = 2 ∧ Gen.flowSampleCombos.paths.length = 1 ∧
    let r := call Gen.flowSampleCombos 0; let a := call Gen.flowSampleCombos 1; let p := path Gen.flowSampleCombos 0
    r.callee = .attr (.stored "runner") "run_cases" ∧ r.cond = [] ∧ r.splat = [.param "case_runner_settings"] ∧
      forwards r [("fn_args", .ap (.fn "tuple") (.attr samplerCombos "keys")),
                  ("cases", .ap (.fn "tuple") (.ap (.ap (.fn (headFn (match argD r "cases" with | .ap _ x => x | _ => .lit ""))) (.param "n")) samplerCombos)),
                  ("to_df", .lit "True")] = true ∧
      forwards a [("new_df", .ret 0), ("engine", .param "engine")] = true ∧
      p.ret = .ret 0 ∧ writesOnly p "_last_df" = true ∧ storedAfter p "_last_df" = .ret 0 := by
  decide +kernel

/-- the dict the Sampler draws from, as an association list: per-call combos win, the keys of the defaults come first in
their own order, then the new ones (`Py.keys_update`) -/
theorem samplerCombos_value {V : Type} (st pr : String → List (String × V)) (isNone : String → Bool)
    (hn : isNone "combos" = true → pr "combos" = []) :
    evalDict st pr isNone samplerCombos = some (Py.dictUpdate (st "default_combos") (pr "combos")) := by
  cases h : isNone "combos"
  · simp [samplerCombos, evalDict, contentKeeping, h]
  · simp [samplerCombos, evalDict, h, hn h, Py.update_nil]

/-- the `info` dict `combo_runner_to_ds` creates: handed to the core run, read afterwards -/
def infoDict (cases : FlowE) : FlowE := .ite (.ap (.ap (.fn "or") cases) (.param "to_df")) (.lit "{}") (.lit "None")

def sameName (ns : List String) : List (String × FlowE) := ns.map fun n => (n, .param n)

/-- **`combo_runner_to_ds(parse=False)`**: the core run gets the function, combos, cases, shuffle and executor options
as given, `flat = to_df`, the `info` dict, and as constants the resources updated with the constants (constants win);
the DataFrame labelling (iff `to_df`) gets the core run's results, the settings the core run left in THAT `info` dict,
attrs / resources / var_names as given; the Dataset labelling (otherwise) gets the core run's results and var_names /
var_dims / var_coords / constants (without the resources) / attrs as given -/
theorem combo_to_ds_forwards :
    Gen.flowComboToDs.calls.length = 3 ∧
    let core := callUnder (.param "parse") false (call Gen.flowComboToDs 0)
    let df := callUnder (.param "parse") false (call Gen.flowComboToDs 1)
    let ds := callUnder (.param "parse") false (call Gen.flowComboToDs 2)
    core.callee = .fn "combo_runner_core" ∧ core.cond = [] ∧ core.splat = [] ∧
      forwards core (sameName ["fn", "combos", "cases", "shuffle", "parallel", "num_workers", "executor", "verbosity"] ++
        [("constants", .merge (.param "resources") (.param "constants")), ("flat", .param "to_df"),
         ("info", infoDict (.param "cases")), ("split", argD core "split")]) = true ∧
      df.callee = .fn "results_to_df" ∧ df.cond = [(.param "to_df", true)] ∧
      forwards df (sameName ["attrs", "resources", "var_names"] ++
        [("results_linear", .ret 0), ("settings", .item (infoDict (.param "cases")) "settings")]) = true ∧
      ds.callee = .fn "results_to_ds" ∧ ds.cond = [(.param "to_df", false)] ∧
      forwards ds (sameName ["var_names", "var_dims", "var_coords", "constants", "attrs"] ++
        [("results", .ret 0), ("combos", argD ds "combos")]) = true := by
  decide +kernel

/-- with `parse=True` every description goes through its own parser first -/
theorem combo_to_ds_parses :
    let core := callUnder (.param "parse") true (call Gen.flowComboToDs 0)
    let df := callUnder (.param "parse") true (call Gen.flowComboToDs 1)
    let ds := callUnder (.param "parse") true (call Gen.flowComboToDs 2)
    arg core "constants" = some (.merge (.ap (.fn "parse_resources") (.param "resources"))
                                          (.ap (.fn "parse_constants") (.param "constants"))) ∧
      arg ds "constants" = some (.ap (.fn "parse_constants") (.param "constants")) ∧
      arg ds "var_names" = some (.ap (.fn "parse_var_names") (.param "var_names")) ∧
      arg ds "var_coords" = some (.ap (.fn "parse_var_coords") (.param "var_coords")) ∧
      arg df "resources" = some (.ap (.fn "parse_resources") (.param "resources")) ∧
      arg df "var_names" = some (.ap (.fn "parse_var_names") (.param "var_names")) := by
  decide +kernel

/-- **`case_runner_to_ds(parse=False)`** hands everything on to `combo_runner_to_ds` under the same names, with
`parse=False` -/
theorem case_to_ds_forwards :
    Gen.flowCaseToDs.calls.length = 1 ∧
    let c := callUnder (.param "parse") false (call Gen.flowCaseToDs 0)
    c.callee = .fn "combo_runner_to_ds" ∧ c.cond = [] ∧ c.splat = [] ∧
      forwards c (sameName ["fn", "combos", "var_names", "var_dims", "var_coords", "cases", "constants", "resources", "attrs",
        "shuffle", "to_df", "parallel", "num_workers", "executor", "verbosity"] ++ [("parse", .lit "False")]) = true := by
  decide +kernel

/-- **`Runner.run_combos` → `combo_runner_to_ds` → `results_to_ds` / `results_to_df` / the swept function**: the Dataset
is labelled with the Runner's own var_names / var_dims / var_coords / attrs and the merged constants; the function is
called with the stored resources updated with the merged constants; the DataFrame gets the stored attrs / resources /
var_names — none dropped, none swapped -/
theorem chain_run_combos :
    let c := call Gen.flowRunCombos 0
    let core := call Gen.flowComboToDs 0; let df := call Gen.flowComboToDs 1; let ds := call Gen.flowComboToDs 2
    let k := argD c "constants"
    through c ds "var_names" = some (.stored "_var_names") ∧ through c ds "var_dims" = some (.stored "_var_dims") ∧
      through c ds "var_coords" = some (.stored "_var_coords") ∧ through c ds "attrs" = some (.stored "_attrs") ∧
      through c ds "constants" = some k ∧
      through c core "constants" = some (.merge (.stored "_resources") k) ∧ through c core "fn" = some (.stored "fn") ∧
      through c df "attrs" = some (.stored "_attrs") ∧ through c df "resources" = some (.stored "_resources") ∧
      through c df "var_names" = some (.stored "_var_names") := by
  decide +kernel

/-- two hops: the argument of the innermost callee in terms of the outermost caller's state and parameters -/
def through2 (caller mid callee : FlowCall) (k : String) : Option FlowE :=
  (arg callee k).map fun e => norm (subst (through caller mid) e)

/-- the same through `run_cases` → `case_runner_to_ds` → `combo_runner_to_ds` → the labelling / the swept function
(`fn_args` goes no further than `case_runner_to_ds`: `combo_runner_to_ds` is handed none) -/
theorem chain_run_cases :
    let c := call Gen.flowRunCases 0
    let m := call Gen.flowCaseToDs 0
    let core := call Gen.flowComboToDs 0; let df := call Gen.flowComboToDs 1; let ds := call Gen.flowComboToDs 2
    let k := argD c "constants"
    through c m "parse" = some (.lit "False") ∧ through c m "fn_args" = none ∧
      through2 c m ds "var_names" = some (.stored "_var_names") ∧ through2 c m ds "var_dims" = some (.stored "_var_dims") ∧
      through2 c m ds "var_coords" = some (.stored "_var_coords") ∧ through2 c m ds "attrs" = some (.stored "_attrs") ∧
      through2 c m ds "constants" = some k ∧
      through2 c m core "constants" = some (.merge (.stored "_resources") k) ∧ through2 c m core "fn" = some (.stored "fn") ∧
      through2 c m core "cases" = some (argD c "cases") ∧
      through2 c m df "attrs" = some (.stored "_attrs") ∧ through2 c m df "resources" = some (.stored "_resources") ∧
      through2 c m df "var_names" = some (.stored "_var_names") := by
  decide +kernel

/-! Non-vacuity -/
example : (Gen.flowRunCombos.calls.map (·.kws.length)) = [9] := by decide
example : arg (call Gen.flowRunCases 0) "var_coords" = some (.stored "_var_coords") := by decide
example : evalDict (V := Nat) (fun a => if a = "_constants" then [("a", 1), ("b", 2)] else [])
    (fun n => if n = "constants" then [("b", 5), ("c", 7)] else []) (fun _ => false)
    (.merge (.stored "_constants") (.ap (.fn "dict") (.param "constants"))) = some [("a", 1), ("b", 5), ("c", 7)] := by decide
example : Py.dictGet (Py.dictUpdate [("a", 1), ("b", 2)] [("b", 5), ("c", 7)]) "b" = some 5 := by decide
example : (Py.dictUpdate [("x", 1), ("y", 2)] [("z", 0), ("x", 9)]).map Prod.fst = ["x", "y", "z"] := by decide
example : assume (.ap (.fn "is None") (.param "fn_args")) false fnArgsInForce = .param "fn_args" := by decide
example : norm (subst (fun n => if n = "parse" then some (.lit "False") else none)
    (.ite (.param "parse") (.ap (.fn "parse_attrs") (.param "attrs")) (.param "attrs"))) = .param "attrs" := by decide

end Forwarding
