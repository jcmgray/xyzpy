import XyzProofs.Lemmas.PlotPrep
import XyzProofs.Lemmas.PlotSrc
/-!
# The translated generator `gen_xy` run on the model's dataset operations is the model's `mkSeries`

`srcOps`: the abstract operations of `Gen.PlotOps` instantiated with `XyzModel/PlotPrep.lean`'s dataset (`View`,
`bdims`, `flat`, `applyMask`).  One iteration of the translated `gen_xy` — sub-dataset selection (positional, `.loc`
fallback), which arrays are taken for x / y / c / y_err / x_err, broadcast + flatten, the finite mask, what is yielded —
equals `mkSeries`, so `c17_points`, `c17_mask_arrays`, `c17_point_kept_iff`, `c17_points_carried` speak about the source.
-/
namespace PlotPrep
open List Gen

/-- a data array of the model: a variable of a view, after `xr.broadcast` with the broadcast dimensions -/
structure Arr where
  vw : View
  bd : Option (List String)
  name : String

def Arr.flat (a : Arr) : List Cell := a.vw.flat (a.bd.getD (a.vw.freeDims a.name)) a.name

/-- the model's dataset as `Gen.PlotOps`; `dimOk z`: positional indexing by `z` works (else `ValueError`, and `.loc`) -/
def srcOps (dimOk : String → Bool) : PlotOps View Arr (List Cell) (List Bool) (Option Cell) (Nat × String) where
  coordValues vw z := (vw.ds.labels z).mapIdx fun i l => (i, l)
  str v := v.2
  isel vw key i := match key with
    | some z => if dimOk z then .ok (vw.sel z i) else .error .valueError
    | none => .error .valueError
  locSel vw key z := match key, z with
    | some k, .coord (i, _) => vw.sel k i
    | _, _ => vw
  getVar vw n := ⟨vw, none, n⟩
  broadcast l := match l with
    | [] => []
    | a :: _ => l.map fun b => { b with bd := some (a.vw.bdims (l.map (·.name))) }
  flatten a := a.flat
  item f := f.head?
  isFinite f := f.map Cell.isFinite
  mand := zipWith (· && ·)
  select f m := applyMask m f
  anyM m := m.any id
  allM m := m.all id
  isEmpty f := f.isEmpty

theorem srcOps_modelCoords (dimOk : String → Bool) (vw : View) : ModelCoords (srcOps dimOk) vw vw.ds :=
  ⟨fun _ => rfl, fun _ => rfl⟩

/-- what `gen_xy` yields for a series of the model: the dict x, y, (c), (ye), (xe) in insertion order -/
def seriesData (s : Series) : List (String × List Cell) :=
  [("x", s.x), ("y", s.y)] ++ (s.c.map fun v => ("c", v)).toList ++ (s.ye.map fun v => ("ye", v)).toList ++
    (s.xe.map fun v => ("xe", v)).toList

def modeOf : Kind → String
  | .lineplot => "lineplot"
  | .scatter => "scatter"
  | .histogram => "histogram"
  | .heatmap => "heatmap"

/-- the colour values `gen_xy` appends to `_c_cols` for a slice (lineplot with `c`) -/
def cColsOf (sv : View) (call : Call) : List (Option Cell) :=
  if call.kind = .lineplot then call.c.toList.map fun c => (sv.flat (sv.freeDims c) c).head? else []

theorem mand_isFinite_eq_mask (xs ys : List Cell) :
    zipWith (· && ·) (xs.map Cell.isFinite) (ys.map Cell.isFinite) =
      zipWith (fun a b => Gen.maskIsBothFinite a.isFinite b.isFinite) xs ys := by
  simp only [Gen.maskIsBothFinite, Gen.Default.maskIsBothFinite, zipWith_map]

section Iter
variable {D A F M C Z : Type}

/-- the arrays one iteration of `gen_xy` puts into `das` besides x and y, in insertion order: c (scatter), y_err, x_err -/
def carriedOf (o : PlotOps D A F M C Z) (sub : D) (c ye xe : Option String) (mode : String) : List (String × A) :=
  ((if mode == "lineplot" then none else if mode == "scatter" then c else none).map fun n => ("c", o.getVar sub n)).toList ++
    (ye.map fun n => ("ye", o.getVar sub n)).toList ++ (xe.map fun n => ("xe", o.getVar sub n)).toList

/-- what one iteration yields from the arrays in `das`: all broadcast together (`bc l` = what `xr.broadcast(*l)` does to a
member of `l`), flattened, and each masked on x and y finite -/
def yieldOf (o : PlotOps D A F M C Z) (bc : List A → A → A) (xa ya : A) (carried : List (String × A)) : List (String × F) :=
  let f := fun a => o.flatten (bc (xa :: ya :: carried.map (·.2)) a)
  let m := o.mand (o.isFinite (f xa)) (o.isFinite (f ya))
  (("x", xa) :: ("y", ya) :: carried).map fun p => (p.1, o.select (f p.2) m)

/-- **one iteration of the translated `gen_xy`, any dataset operations**: from the sub-dataset `sub` — the dataset itself
when there is no z value, else `ds[{z: i}]` or, when that raises `ValueError`, `ds.loc[{z: value}]` — the generator takes x, y
and the carried c (scatter) / y_err / x_err, broadcasts them together, flattens, masks every array on x and y finite and yields
them in that order; for a lineplot with `c` the slice's colour value goes to `_c_cols`.  With several variables (`mv`) y is
the variable the z value names, taken from the dataset itself, and nothing is carried (`genxy_var_errors`).  The generator is
run on the one z value, so its loop counts from 0 and `hsub` speaks of `isel … 0`: for iteration `k` of a longer run the
callers shift the operations (`shiftOps o k`).  The proof follows the shape of the translated body (two parts in sequence, the
`try` first); the stored rewrites of `gen_xy`, r2_R4 and r4_R4, are the ones to build it against -/
theorem genxy_iter (o : PlotOps D A F M C Z) (bc : List A → A → A) (hb : ∀ l, o.broadcast l = l.map (bc l))
    (ds sub : D) (z : PZ Z) (mv : Bool) (x y mode : String) (zCoo c ye xe : Option String)
    (hsub : mv = true ∧ sub = ds ∧ c = none ∧ ye = none ∧ xe = none ∨
      mv = false ∧ (z.isNone = true ∧ sub = ds ∨ z.isNone = false ∧
        (o.isel ds zCoo 0 = .ok sub ∨ o.isel ds zCoo 0 = .error .valueError ∧ o.locSel ds zCoo z = sub))) :
    Gen.plGenXY o ds [z] mv x y zCoo c ye xe mode =
      .ok ([yieldOf o bc (o.getVar sub x) (o.getVar sub (if mv then PZ.key o.str z else y)) (carriedOf o sub c ye xe mode)],
        if mode == "lineplot" then c.toList.map fun n => o.item (o.flatten (o.getVar sub n)) else []) := by
  simp only [carriedOf]
  generalize hc' : (if mode == "lineplot" then none else if mode == "scatter" then c else none) = c'
  generalize hcc : (if mode == "lineplot" then c.toList.map fun n => o.item (o.flatten (o.getVar sub n)) else []) = cc
  simp only [Gen.plGenXY, Gen.Default.plGenXY, plLoop_singleton]
  -- the body is two parts in sequence: the first collects `das` and `_c_cols`, the second works on `das` alone.  Proved
  -- one after the other, the tests of the first (z, c, mode, y_err, x_err: small terms) do not multiply those of the second (the 8 cases of c', y_err, x_err)
  refine bind_ok_of
    (a := (("x", o.getVar sub x) :: ("y", o.getVar sub (if mv then PZ.key o.str z else y)) :: ((c'.map fun n => ("c", o.getVar sub n)).toList ++
      (ye.map fun n => ("ye", o.getVar sub n)).toList ++ (xe.map fun n => ("xe", o.getVar sub n)).toList), cc)) ?_ ?_
  · subst hc' hcc
    rcases hsub with ⟨rfl, rfl, rfl, rfl, rfl⟩ | ⟨rfl, hsub⟩
    · simp [plSet, bind, Except.bind, pure, Except.pure]
    -- one variable.  The sub-dataset first: the dataset itself, or the selection the `try` ends with
    cases hn : z.isNone
    case' false =>
      rw [plTry_eq_ok _ _ sub]
      -- the side condition of `plTry_eq_ok` is closed here; `case'` leaves the main goal open for `all_goals` below
      rotate_left
      · rcases hsub with ⟨h, _⟩ | ⟨_, h | ⟨h, rfl⟩⟩
        · rw [h] at hn
          cases hn
        · exact .inl (by rw [h]; rfl)
        · exact .inr ⟨_, by rw [h]; rfl, rfl⟩
    case' true =>
      obtain rfl : sub = ds := by
        rcases hsub with ⟨_, h⟩ | ⟨h, _⟩
        · exact h
        · rw [h] at hn
          cases hn
    -- then, from either, the same steps
    all_goals
      cases c with
      | none => cases ye <;> cases xe <;> simp [plSet, bind, Except.bind, pure, Except.pure]
      | some cn =>
        cases hl : mode == "lineplot" <;> cases hs : mode == "scatter" <;> cases ye <;> cases xe <;>
          simp [plSet, bind, Except.bind, pure, Except.pure, hl, hs]
  · -- the sequence is evaluated before the dict operations on the literal keys are unfolded: one simp set for both
    -- is three times dearer
    cases c' <;> cases ye <;> cases xe <;>
      (simp only [bind, Except.bind, pure, Except.pure, Option.map_none, Option.map_some, Option.toList_none,
         Option.toList_some, nil_append, cons_append, map_cons, map_nil, hb]
       simp only [plSet, plGet, plHas, any_nil, any_cons, map_cons, map_nil, Bool.or_false, Bool.false_eq_true, if_false,
         nil_append, cons_append, String.reduceBEq, Bool.or_self, Bool.or_true, if_true, zip_cons_cons, zip_nil_right,
         foldl_cons, foldl_nil, find?_cons, find?_nil, ↓reduceIte]
       simp [yieldOf])

end Iter

/-- `xr.broadcast` of the model: every array gets the broadcast dimensions of all of them -/
def bcModel (l : List Arr) (b : Arr) : Arr :=
  match l with
  | [] => b
  | a :: _ => { b with bd := some (a.vw.bdims (l.map (·.name))) }

theorem srcOps_broadcast (dimOk : String → Bool) (l : List Arr) : (srcOps dimOk).broadcast l = l.map (bcModel l) := by
  cases l <;> rfl

theorem toList_map_map {α β γ : Type} (o : Option α) (g : α → β) (h : β → γ) :
    (o.map g).toList.map h = (o.map fun a => h (g a)).toList := by
  cases o <;> rfl

theorem yieldOf_srcOps (dimOk : String → Bool) (k : Nat) (sv : View) (call : Call) (lab : Option String)
    (hk : call.kind = .lineplot ∨ call.kind = .scatter) :
    yieldOf (shiftOps (srcOps dimOk) k) bcModel ⟨sv, none, call.x1⟩ ⟨sv, none, call.y1⟩
        (carriedOf (shiftOps (srcOps dimOk) k) sv call.c call.yErr call.xErr (modeOf call.kind)) =
      seriesData (mkSeries sv call call.x1 call.y1 true lab) := by
  -- the arrays in `das` besides x and y are the model's carried variables, so all are broadcast to the model's dimensions
  have hn : ((carriedOf (shiftOps (srcOps dimOk) k) sv call.c call.yErr call.xErr (modeOf call.kind)).map (·.2)).map (·.name) =
      carriedNames call := by
    rcases hk with hk | hk <;> simp [carriedOf, carriedNames, modeOf, hk, shiftOps, srcOps, toList_map_map]
  simp only [yieldOf, bcModel, map_cons, hn]
  -- entry by entry: the same array under the same mask
  simp only [shiftOps, srcOps, Arr.flat, Option.getD_some, mand_isFinite_eq_mask, carriedOf, map_append, toList_map_map, seriesData,
    mkSeries, notNull_mkSeries, if_true, cons_append, nil_append, Option.map_map]
  rcases hk with hk | hk <;> simp [modeOf, hk, Function.comp_def]

/-- **one iteration of the translated `gen_xy` = `mkSeries`**, z coordinate case: for the `i`-th value of the z coordinate
the generator selects `ds[{z: i}]` (or, when that raises `ValueError`, `ds.loc[{z: value}]`: the same slice), takes x, y and the
carried c (scatter) / y_err / x_err from it, broadcasts, flattens, masks on x and y finite, and yields the masked arrays -/
theorem genxy_coord_refines (dimOk : String → Bool) (vw : View) (call : Call) (z : String) (i : Nat) (l : String)
    (hk : call.kind = .lineplot ∨ call.kind = .scatter) :
    Gen.plGenXY (shiftOps (srcOps dimOk) i) vw [.coord (i, l)] false call.x1 call.y1 (some z) call.c call.yErr call.xErr
        (modeOf call.kind) =
      .ok ([seriesData (mkSeries (vw.sel z i) call call.x1 call.y1 true (some l))], cColsOf (vw.sel z i) call) := by
  rw [genxy_iter (o := shiftOps (srcOps dimOk) i) (hb := srcOps_broadcast dimOk) (sub := vw.sel z i) (mv := false),
    ← yieldOf_srcOps dimOk i _ _ _ hk]
  · rcases hk with hk | hk <;> simp [cColsOf, hk, modeOf, shiftOps, srcOps, Arr.flat]
  · refine .inr ⟨rfl, .inr ⟨rfl, ?_⟩⟩
    cases hd : dimOk z <;> simp [shiftOps, srcOps, hd]

/-- no z coordinate, one variable: the whole dataset is the slice -/
theorem genxy_single_refines (dimOk : String → Bool) (vw : View) (call : Call) (zCoo : Option String) (k : Nat)
    (hk : call.kind = .lineplot ∨ call.kind = .scatter) :
    Gen.plGenXY (shiftOps (srcOps dimOk) k) vw [.none] false call.x1 call.y1 zCoo call.c call.yErr call.xErr
        (modeOf call.kind) =
      .ok ([seriesData (mkSeries vw call call.x1 call.y1 true none)], cColsOf vw call) := by
  rw [genxy_iter (o := shiftOps (srcOps dimOk) k) (hb := srcOps_broadcast dimOk) (sub := vw)
      (hsub := .inr ⟨rfl, .inl ⟨rfl, rfl⟩⟩),
    ← yieldOf_srcOps dimOk k _ _ _ hk]
  rcases hk with hk | hk <;> simp [cColsOf, hk, modeOf, shiftOps, srcOps, Arr.flat]

/-- several variables: series `n` is x against the variable `n` of the dataset, nothing carried -/
theorem genxy_var_refines (dimOk : String → Bool) (vw : View) (call : Call) (n yCoo mode : String) (zCoo : Option String)
    (k : Nat) :
    Gen.plGenXY (shiftOps (srcOps dimOk) k) vw [.name n] true call.x1 yCoo zCoo none none none mode =
      .ok ([seriesData (mkSeries vw call call.x1 n false (some n))], []) := by
  rw [genxy_iter (o := shiftOps (srcOps dimOk) k) (hb := srcOps_broadcast dimOk) (sub := vw)
      (hsub := .inl ⟨rfl, rfl, rfl, rfl, rfl⟩)]
  simp [yieldOf, carriedOf, bcModel, shiftOps, srcOps, PZ.key, Arr.flat, seriesData, mkSeries, notNull_mkSeries, ← mand_isFinite_eq_mask]

/-- several variables together with errors / a colour variable: `ValueError` (translated source, any operations) -/
theorem genxy_var_errors {D A F M C Z : Type} (o : PlotOps D A F M C Z) (ds : D) (z : PZ Z) (zs : List (PZ Z))
    (xCoo yCoo mode : String) (zCoo cCoo yErr xErr : Option String) (h : (yErr.isSome || xErr.isSome || cCoo.isSome) = true) :
    Gen.plGenXY o ds (z :: zs) true xCoo yCoo zCoo cCoo yErr xErr mode = .error .valueError := by
  simp only [Gen.plGenXY, Gen.Default.plGenXY, plLoop, plEnumerate, length_cons, range_succ_eq_map, zip_cons_cons, map_cons,
    foldlM_cons]
  -- the first iteration raises, whichever of the three is given
  cases yErr <;> cases xErr <;> cases cCoo <;> simp at h <;> rfl

/-- **histogram**: one iteration of the translated `gen_x` yields the finite values of the slice (`.loc` by the z value),
of the variable, or of the whole dataset: the `x` of the model's `prepareHistogram` -/
theorem genx_refines (dimOk : String → Bool) (vw : View) (x1 yCoo mode : String) (c ye xe : Option String) :
    (∀ z i l, Gen.plGenX (srcOps dimOk) vw [.coord (i, l)] false x1 yCoo (some z) c ye xe mode =
      .ok ([[("x", ((vw.sel z i).flat ((vw.sel z i).freeDims x1) x1).filter Cell.isFinite)]], [])) ∧
    (∀ n zCoo, Gen.plGenX (srcOps dimOk) vw [.name n] true x1 yCoo zCoo c ye xe mode =
      .ok ([[("x", (vw.flat (vw.freeDims n) n).filter Cell.isFinite)]], [])) ∧
    (∀ zCoo, Gen.plGenX (srcOps dimOk) vw [.none] false x1 yCoo zCoo c ye xe mode =
      .ok ([[("x", (vw.flat (vw.freeDims x1) x1).filter Cell.isFinite)]], [])) := by
  -- every test of the body is closed here, so whatever its shape it evaluates; only `f[isfinite f]` is not `filter` by evaluation
  refine ⟨?_, ?_, ?_⟩ <;> intros <;>
    (simp only [Gen.plGenX, Gen.Default.plGenX, plLoop_singleton]
     rw [← applyMask_map_self]
     rfl)

end PlotPrep
