import XyzModel.Gen.Extracted
import XyzProofs.Refine.Reaper
import XyzProofs.Lemmas.Attempt
/-!
`Gen.prepareLc`, `Gen.sowCombosLc`, `Gen.sowCasesLc`, `Gen.sowSamplesLc`, `Gen.reapCombosLc`, `Gen.reapCombosToDsLc`,
`Gen.reapRunnerLc` … are the whole bodies of the methods of `Crop`, translated from the repository source on every run
(harness/anchors_lifecycle.py) to effect skeletons whose effects carry the values they are given.  Here: a hand-written
description of each in terms of `attempt` (`prepareEffs`, `sowCombosSpec`, `sowCasesSpec`, `reapSpec`) and the proofs
that the translated bodies ARE these descriptions (`*_refines`).
-/
namespace Lc
open Gen

variable {C K A V : Type}

/-- continue with `k` on the trace reached unless an effect failed (then the object attributes are `obj`) -/
def thenK {E O : Type} (r : List E × Option PyErr) (obj : O) (k : List E → (List E × O) × Option PyErr) :
    (List E × O) × Option PyErr :=
  match r with
  | (t, some e) => ((t, obj), some e)
  | (t, none) => k t

theorem thenK_nil {E O : Type} (fails : E → Bool) (t : List E) (obj : O) (k) :
    thenK (attempt fails [] t) obj k = k t := rfl

theorem thenK_attempt {E O : Type} (fails : E → Bool) (es t : List E) (obj : O) (k) :
    thenK (attempt fails es t) obj k = attemptThen fails (fun t => ((t, obj), some .other)) k es t :=
  attemptThen_eq fails (thenK · obj k) _ k (fun _ => rfl) (fun _ => rfl) es t

theorem thenK_ok {E O : Type} {fails : E → Bool} {es t : List E} {obj : O} {k} (h : ∀ e ∈ es, fails e = false) :
    thenK (attempt fails es t) obj k = k (t ++ es) := by
  rw [attempt_ok fails es t h]; rfl

theorem thenK_none {E O : Type} {fails : E → Bool} {es t : List E} {obj : O} {k}
    (h : (thenK (attempt fails es t) obj k).2 = none) :
    (∀ e ∈ es, fails e = false) ∧ thenK (attempt fails es t) obj k = k (t ++ es) := by
  rw [thenK_attempt] at h ⊢
  exact (attemptThen_cases fails _ k es t).resolve_right fun h' => by rw [h'.2] at h; cases h

theorem thenK_fail {E O : Type} (fails : E → Bool) (es t : List E) (obj : O) (k) (x : E) (hx : x ∈ es)
    (hf : fails x = true) :
    thenK (attempt fails es t) obj k = (((attempt fails es t).1, obj), some .other) := by
  rw [thenK_attempt]
  exact ((attemptThen_cases fails _ k es t).resolve_left fun h' => by rw [h'.1 x hx] at hf; cases hf).2

/-- where an effect in the trace can come from; `P` stands for whatever the continuation can add (`False` when it adds
nothing) -/
theorem thenK_trace_mem {E O : Type} {fails : E → Bool} {es t : List E} {obj : O} {k} {x : E} (P : Prop)
    (hk : ∀ t', x ∈ (k t').1.1 → x ∈ t' ∨ P)
    (hx : x ∈ (thenK (attempt fails es t) obj k).1.1) : x ∈ t ∨ x ∈ es ∨ P := by
  rw [thenK_attempt] at hx
  rcases attemptThen_cases fails _ k es t with ⟨_, h⟩ | ⟨_, h⟩ <;> rw [h] at hx
  · rcases hk _ hx with h | h
    · exact (List.mem_append.mp h).imp_right Or.inl
    · exact Or.inr (Or.inr h)
  · exact (attempt_mem fails es t x hx).imp_right Or.inl

theorem thenK_ret_trace {E O : Type} (r : List E × Option PyErr) (obj obj' : O) :
    (thenK r obj fun t => ((t, obj'), none)).1.1 = r.1 := by
  rcases r with ⟨t, _ | e⟩ <;> rfl

theorem thenK_fst_fst {E O : Type} (r : List E × Option PyErr) (obj : O) (k) (e : PyErr) (h : r.2 = some e) :
    thenK r obj k = ((r.1, obj), some e) := by
  obtain ⟨t, e'⟩ := r
  simp only at h; subst h; rfl

/-- the record `save_info` writes -/
def infoOf (combos : C) (cases : K) (fnArgs : A) (bs nb rem sh : Option Int) (sc : Option (Dict V)) (f : FarmerPkl) :
    InfoRec C K A V :=
  { combos := some combos, cases := some cases, fnArgs := some fnArgs, batchsize := some bs, numBatches := some nb,
    remainder := some rem, shuffle := some sh, farmer := some f, constants := some (sc.getD []) }

/-- `save_info`: the farmer is pickled (a copy whose `fn` was set to `None`) when there is one, then the info file is written -/
def saveInfoEffs (farmerIsNone : Bool) (info : FarmerPkl → InfoRec C K A V) : List (LEff C K A V) :=
  if farmerIsNone then [.writeInfo (info .none)] else [.pickleFarmer true, .writeInfo (info (.pickled true))]

/-- `prepare`: the two directories, the function file (when `save_fn`), the info file — in this order -/
def prepareEffs (saveFn farmerIsNone : Bool) (info : FarmerPkl → InfoRec C K A V) : List (LEff C K A V) :=
  [.mkDir .batches true, .mkDir .results true] ++ (if saveFn then [.pickleFn, .writeFn] else []) ++
    saveInfoEffs farmerIsNone info

/-! Each `*_refines` below has the same proof.  Once the options are fixed (a case split on the options, never on `fails`),
the translated body and its description compute to the same chain of `if fails e`: `rfl`, whatever shape the translated
text has.  Where the description continues after an `attempt` (`thenK`, `thenT`) it is first put into the form that
computes (`thenK_attempt`, `thenT_attempt`).  A body that calls another translated function (`choose_batch_settings`,
`sow_cases`) is compared with a description that calls the same one, so nothing is asked of the callee's text — except
when the body is its committed text, which names `Gen.Default.<callee>`, while the callee is translated: then `rfl` has to
identify the two texts of the callee, and does so only if they are the same up to what computes without the arguments
(these callees take numbers, on which nothing can be fixed beforehand).  A reworded `choose_batch_settings` TOGETHER WITH
a sow body that cannot be translated therefore fails `sowCombos_refines` / `sowCases_refines`; either alone does not. -/

theorem ensureDirs_refines (o : LcOps C K A V) (fails) (trace) :
    ensureDirsLc o fails trace = attempt fails [.mkDir .batches true, .mkDir .results true] trace :=
  rfl

theorem saveFn_refines (o : LcOps C K A V) (fails) (trace) :
    saveFnLc o fails trace = attempt fails [.pickleFn, .writeFn] trace :=
  rfl

theorem deleteAll_refines (o : LcOps C K A V) (fails) (trace) :
    deleteAllLc o fails trace = attempt fails [.deleteAll] trace :=
  rfl

/-- `load_info`: `XYZError` when there is no info file, else the file is read -/
theorem loadInfo_refines (o : LcOps C K A V) (fails) (infoIsFile : Bool) (trace) :
    loadInfoLc o fails infoIsFile trace = if infoIsFile then attempt fails [.loadInfo] trace else (trace, some .xyzError) := by
  cases infoIsFile <;> rfl

theorem saveInfo_refines (o : LcOps C K A V) (fails) (combos : C) (cases : K) (fnArgs : A)
    (saveFn farmerIsNone hasRunner : Bool) (rc rr : Dict V) (bs nb rem sh : Option Int) (sc : Option (Dict V)) (trace) :
    saveInfoLc o fails combos cases fnArgs saveFn farmerIsNone hasRunner rc rr bs nb rem sh sc trace
      = attempt fails (saveInfoEffs farmerIsNone (infoOf combos cases fnArgs bs nb rem sh sc)) trace := by
  cases farmerIsNone <;> rfl

theorem prepare_refines (o : LcOps C K A V) (fails) (combos : C) (cases : K) (fnArgs : A)
    (saveFn farmerIsNone hasRunner : Bool) (rc rr : Dict V) (bs nb rem sh : Option Int) (sc : Option (Dict V)) (trace) :
    prepareLc o fails combos cases fnArgs saveFn farmerIsNone hasRunner rc rr bs nb rem sh sc trace
      = attempt fails (prepareEffs saveFn farmerIsNone (infoOf combos cases fnArgs bs nb rem sh sc)) trace := by
  cases saveFn <;> cases farmerIsNone <;> rfl

/-- `if <arg> is not None: self.<attr> = <arg>` -/
def headAttr (arg cur : Option Int) : Option Int := if arg.isSome then arg else cur

/-- the keyword arguments every sown setting gets: the runner's resources, then its constants, then the constants given
at the sow call — a later one overrides an earlier one -/
def sowKwargs (hasRunner : Bool) (rc rr sc : Dict V) : Dict V :=
  if hasRunner then dictMerge rr (dictMerge rc sc) else sc

/-- the effects of a successful sow after parsing, in order -/
def sowWrites (saveFn farmerIsNone : Bool) (info : FarmerPkl → InfoRec C K A V) (run : RunArgs C K A V) : List (LEff C K A V) :=
  prepareEffs saveFn farmerIsNone info ++ [.runSower run, .exitSower]

/-- after the arguments were parsed: choose the batch settings, `prepare`, drive the Sower -/
def sowTail (fails : LEff C K A V → Bool) (saveFn farmerIsNone : Bool) (pc : C) (pk : K) (fa : A) (run : RunArgs C K A V)
    (bs nb rem sh : Option Int) (sc : Dict V) (choice : Except PyErr (Option Int × Option Int × Option Int))
    (t : List (LEff C K A V)) : LRes C K A V :=
  match choice with
  | .error e => ((t, bs, nb, rem, sh, some sc), some e)
  | .ok (bs', nb', rem') =>
    thenK (attempt fails (prepareEffs saveFn farmerIsNone (infoOf pc pk fa bs' nb' rem' sh (some sc)) ++ [.runSower run, .exitSower]) t)
      (bs', nb', rem', sh, some sc) (fun t => ((t, bs', nb', rem', sh, some sc), none))

/-- `sow_combos`, by hand -/
def sowCombosSpec (o : LcOps C K A V) (fails : LEff C K A V → Bool) (combos : C) (cases : K) (constants : Dict V)
    (shArg bsArg nbArg : Option Int) (saveFn farmerIsNone hasRunner : Bool) (rc rr : Dict V)
    (bs nb rem sh : Option Int) (sc0 : Option (Dict V)) (trace : List (LEff C K A V)) : LRes C K A V :=
  thenK (attempt fails [.parse .combos, .parse .cases, .parse .constants] trace)
    (headAttr bsArg bs, headAttr nbArg nb, rem, headAttr shArg sh, sc0) fun t =>
    sowTail fails saveFn farmerIsNone (o.sortByName (o.parseCombos combos)) (o.parseCases cases none) o.noneA
      { runner := .comboRunnerCore, combos := o.sortByName (o.parseCombos combos), cases := o.parseCases cases none,
        fnArgs := o.noneA, constants := sowKwargs hasRunner rc rr (o.parseConstants constants),
        shuffle := headAttr shArg sh, parse := true }
      (headAttr bsArg bs) (headAttr nbArg nb) rem (headAttr shArg sh) (o.parseConstants constants)
      (chooseBatchSettings (o.combosTruthy (o.sortByName (o.parseCombos combos))) (o.combosProd (o.sortByName (o.parseCombos combos)))
        (o.casesTruthy (o.parseCases cases none)) (o.casesLen (o.parseCases cases none)) (headAttr bsArg bs) (headAttr nbArg nb) rem) t

/-- `sow_cases`, by hand -/
def sowCasesSpec (o : LcOps C K A V) (fails : LEff C K A V → Bool) (fnArgs : A) (cases : K) (combos : C) (constants : Dict V)
    (bsArg nbArg : Option Int) (saveFn farmerIsNone hasRunner : Bool) (rc rr : Dict V)
    (bs nb rem sh : Option Int) (sc0 : Option (Dict V)) (trace : List (LEff C K A V)) : LRes C K A V :=
  thenK (attempt fails [.parse .fnArgs, .parse .cases, .parse .constants] trace)
    (headAttr bsArg bs, headAttr nbArg nb, rem, sh, sc0) fun t =>
    sowTail fails saveFn farmerIsNone combos (o.parseCases cases (some (o.parseFnArgs fnArgs))) (o.parseFnArgs fnArgs)
      { runner := .caseRunner, combos := combos, cases := o.parseCases cases (some (o.parseFnArgs fnArgs)),
        fnArgs := o.parseFnArgs fnArgs, constants := sowKwargs hasRunner rc rr (o.parseConstants constants),
        shuffle := sh, parse := false }
      (headAttr bsArg bs) (headAttr nbArg nb) rem sh (o.parseConstants constants)
      (chooseBatchSettings (o.combosTruthy combos) (o.combosProd combos)
        (o.casesTruthy (o.parseCases cases (some (o.parseFnArgs fnArgs)))) (o.casesLen (o.parseCases cases (some (o.parseFnArgs fnArgs))))
        (headAttr bsArg bs) (headAttr nbArg nb) rem) t

theorem sowCombos_refines (o : LcOps C K A V) (fails) (combos : C) (cases : K) (constants : Dict V)
    (shArg bsArg nbArg : Option Int) (saveFn farmerIsNone hasRunner : Bool) (rc rr : Dict V)
    (bs nb rem sh : Option Int) (sc0 : Option (Dict V)) (trace) :
    sowCombosLc o fails combos cases constants shArg bsArg nbArg saveFn farmerIsNone hasRunner rc rr bs nb rem sh sc0 trace
      = sowCombosSpec o fails combos cases constants shArg bsArg nbArg saveFn farmerIsNone hasRunner rc rr bs nb rem sh sc0 trace := by
  simp only [sowCombosSpec, sowTail, thenK_attempt]
  cases saveFn <;> cases farmerIsNone <;> rfl

theorem sowCases_refines (o : LcOps C K A V) (fails) (fnArgs : A) (cases : K) (combos : C) (constants : Dict V)
    (bsArg nbArg : Option Int) (saveFn farmerIsNone hasRunner : Bool) (rc rr : Dict V)
    (bs nb rem sh : Option Int) (sc0 : Option (Dict V)) (trace) :
    sowCasesLc o fails fnArgs cases combos constants bsArg nbArg saveFn farmerIsNone hasRunner rc rr bs nb rem sh sc0 trace
      = sowCasesSpec o fails fnArgs cases combos constants bsArg nbArg saveFn farmerIsNone hasRunner rc rr bs nb rem sh sc0 trace := by
  simp only [sowCasesSpec, sowTail, thenK_attempt]
  cases saveFn <;> cases farmerIsNone <;> rfl

/-- `sow_samples`: the Sampler generates the cases, then it is `sow_cases` with them (no combos, the batch settings of
the call left alone) -/
theorem sowSamples_refines (o : LcOps C K A V) (fails) (n : Int) (combos : C) (constants : Dict V)
    (saveFn farmerIsNone hasRunner : Bool) (rc rr : Dict V) (bs nb rem sh : Option Int) (sc0 : Option (Dict V)) (trace) :
    sowSamplesLc o fails n combos constants saveFn farmerIsNone hasRunner rc rr bs nb rem sh sc0 trace
      = thenK (attempt fails [.parse .genCases] trace) (bs, nb, rem, sh, sc0) fun t =>
          sowCasesLc o fails (o.genFnArgs n combos) (o.genCases n combos) o.noneC constants none none
            saveFn farmerIsNone hasRunner rc rr bs nb rem sh sc0 t := by
  rw [thenK_attempt]
  rfl

/-- continue with `k` on the trace reached unless an effect failed -/
def thenT {E : Type} (r : List E × Option PyErr) (k : List E → List E × Option PyErr) : List E × Option PyErr :=
  match r with
  | (t, some e) => (t, some e)
  | (t, none) => k t

theorem thenT_eq_skBindG {E : Type} : @thenT E = skBindG := by
  funext r k; rcases r with ⟨t, _ | e⟩ <;> rfl

theorem thenT_nil {E : Type} (fails : E → Bool) (t : List E) (k) : thenT (attempt fails [] t) k = k t := rfl

theorem thenT_cons {E : Type} (fails : E → Bool) (e : E) (es t : List E) (k) :
    thenT (attempt fails (e :: es) t) k = if fails e then (t ++ [e], some .other) else thenT (attempt fails es (t ++ [e])) k := by
  cases h : fails e <;> simp [attempt, thenT, h]

theorem thenT_attempt {E : Type} (fails : E → Bool) (es t : List E) (k) :
    thenT (attempt fails es t) k = attemptThen fails (fun t => (t, some .other)) k es t :=
  attemptThen_eq fails (thenT · k) _ k (fun _ => rfl) (fun _ => rfl) es t

theorem thenT_none {E : Type} {fails : E → Bool} {es t : List E} {k}
    (h : (thenT (attempt fails es t) k).2 = none) :
    (∀ e ∈ es, fails e = false) ∧ thenT (attempt fails es t) k = k (t ++ es) := by
  rw [thenT_attempt] at h ⊢
  exact (attemptThen_cases fails _ k es t).resolve_right fun h' => by rw [h'.2] at h; cases h

/-- what the Reaper and the runner driving it are handed, as read off the info record: `settings["num_batches"]`,
`settings["combos"]`, `settings["cases"]` (a `KeyError` when one was not written), `settings.get("shuffle", False)` -/
def reapArgsOf (info : InfoRec C K A V) (runner : RunnerKind) (labels : Dict V) (parse : Bool) :
    Except PyErr (ReapArgs C K A V) :=
  match info.numBatches, info.combos, info.cases with
  | some nb, some c, some k =>
    .ok { runner := runner, numBatches := nb, combos := c, cases := k, constants := labels,
          shuffle := info.shuffle.getD (some 0), parse := parse }
  | _, _, _ => .error .keyError

/-- the three reap methods by hand: `first` (reap_runner reads the sow-time constants), the ready check, the stand-in
(only with `allow_incomplete`), the info file, `pre` (parsing the labels), gathering under the Reaper with the arguments
read off the info record, labelling, the Reaper's exit check, the clean-up when it resolves to true, `post` -/
def reapSpec (fails : LEff C K A V → Bool) (info : InfoRec C K A V) (cleanUp : Option Bool) (allowIncomplete : Bool)
    (first pre : List (LEff C K A V)) (runner : RunnerKind) (labels : Dict V) (parse : Bool) (post : List (LEff C K A V))
    (trace : List (LEff C K A V)) : List (LEff C K A V) × Option PyErr :=
  thenT (attempt fails (first ++ [.checkReady] ++ (if allowIncomplete then [.allNan] else []) ++ [.loadInfo] ++ pre) trace) fun t =>
    match reapArgsOf info runner labels parse with
    | .error e => (t, some e)
    | .ok args =>
      attempt fails ([.gather args] ++ (if runner = .comboRunnerToDs then [.label] else []) ++ [.reaperExit] ++
        (if Crop.cleanUpResolved cleanUp allowIncomplete then [.deleteAll] else []) ++ post) t

/-- the committed text of `calc_clean_up_default_res` (what the committed texts of the reap methods call); the twin of
`Refine.calcCleanUp_refines` (Refine/Reaper.lean), kept because `reap_refine` below names both -/
theorem calcCleanUp_default_refines (cleanUp : Option Bool) (allowIncomplete : Bool) :
    Gen.Default.calcCleanUp cleanUp allowIncomplete = .ok (some (Crop.cleanUpResolved cleanUp allowIncomplete), allowIncomplete) := by
  cases cleanUp <;> cases allowIncomplete <;>
    simp [Gen.Default.calcCleanUp, Crop.cleanUpResolved, Gen.cleanUpDefault, Gen.Default.cleanUpDefault]

/-- For a statement about the unfolded reap bodies that is not a statement about `attempt`: resolve the clean-up flag
(`calcCleanUp_refines`), split every option and every key of the info record, normalise both sides.  Nothing in this file
needs it. -/
macro "reap_refine" info:ident cu:ident ai:ident : tactic =>
  `(tactic| (
    simp only [Refine.calcCleanUp_refines, calcCleanUp_default_refines, reapSpec, reapArgsOf, getKey]
    generalize Crop.cleanUpResolved $cu $ai = cur
    obtain ⟨ic, ik, ifa, ibs, inb, irem, ish, ifm, ics⟩ := $info
    cases $ai:ident <;> cases cur <;> cases inb <;> cases ic <;> cases ik <;>
      simp only [thenT_cons, thenT_nil, List.cons_append, List.nil_append, List.append_nil, Bool.not_true, Bool.not_false,
        Bool.false_eq_true, if_true, if_false, ite_true, ite_false, Bool.true_and, Bool.false_and, beq_self_eq_true,
        reduceCtorEq, Option.some.injEq, beq_iff_eq] <;>
      (try simp only [attempt, List.cons_append, List.nil_append, List.append_nil, if_true, if_false, ite_true, ite_false,
        Bool.false_eq_true, reduceCtorEq]) <;>
      first | done | rfl | ((repeat' split) <;> first | rfl | simp_all [attempt, thenT])))

theorem reapCombos_refines (o : LcOps C K A V) (fails) (info : InfoRec C K A V) (wait : Bool) (cleanUp : Option Bool)
    (allowIncomplete : Bool) (sbs snb srem ssh : Option Int) (trace) :
    reapCombosLc o fails info wait cleanUp allowIncomplete sbs snb srem ssh trace
      = reapSpec fails info cleanUp allowIncomplete [] [] .comboRunnerCore [] true [] trace := by
  rw [reapSpec, thenT_attempt]
  obtain ⟨ic, ik, ifa, ibs, inb, irem, ish, ifm, ics⟩ := info
  -- a key that was not written ends the reap where it is read, whatever the later keys hold: split a key only where reached
  rcases cleanUp with _ | _ | _ <;> cases allowIncomplete <;>
    (cases inb
     · rfl
     cases ic
     · rfl
     cases ik <;> rfl)

theorem reapCombosToDs_refines (o : LcOps C K A V) (fails) (info : InfoRec C K A V) (wait : Bool) (cleanUp : Option Bool)
    (allowIncomplete : Bool) (sbs snb srem ssh : Option Int) (constants : Dict V) (parse toDf : Bool) (trace) :
    reapCombosToDsLc o fails info wait cleanUp allowIncomplete sbs snb srem ssh constants parse toDf trace
      = reapSpec fails info cleanUp allowIncomplete [] (if parse then [.parse .constants, .parse .attrs] else []) .comboRunnerToDs
          (if parse then o.parseConstants constants else constants) parse [] trace := by
  rw [reapSpec, thenT_attempt]
  obtain ⟨ic, ik, ifa, ibs, inb, irem, ish, ifm, ics⟩ := info
  rcases cleanUp with _ | _ | _ <;> cases allowIncomplete <;> cases parse <;>
    (cases inb
     · rfl
     cases ic
     · rfl
     cases ik <;> rfl)

/-- `reap_runner`: the info file is read for the sow-time constants, which are laid over the runner's own
(`{**runner._constants, **sow_constants}`) and label the output unparsed; the data is recorded as the runner's last
result after everything else -/
theorem reapRunner_refines (o : LcOps C K A V) (fails) (info : InfoRec C K A V) (wait : Bool) (cleanUp : Option Bool)
    (allowIncomplete : Bool) (sbs snb srem ssh : Option Int) (rc : Dict V) (toDf : Bool) (trace) :
    reapRunnerLc o fails info wait cleanUp allowIncomplete sbs snb srem ssh rc toDf trace
      = reapSpec fails info cleanUp allowIncomplete [.loadInfo] [] .comboRunnerToDs
          (dictMerge rc (info.constants.getD [])) false [.setLast] trace := by
  rw [reapSpec, thenT_attempt]
  obtain ⟨ic, ik, ifa, ibs, inb, irem, ish, ifm, ics⟩ := info
  rcases cleanUp with _ | _ | _ <;> cases allowIncomplete <;>
    (cases inb
     · rfl
     cases ic
     · rfl
     cases ik <;> rfl)

end Lc
