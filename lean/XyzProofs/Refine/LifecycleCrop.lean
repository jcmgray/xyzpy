import XyzProofs.Refine.Lifecycle
import XyzProofs.Refine.Batch
import XyzProofs.Props.C04
/-!
`Crop.opSow` — the model about which `c04_reap_eq_direct`, `c04_history_reap_eq_direct`, `runnerShuffle_eq_recorded` are
proved — is tied here to `Gen.sowCombosLc`, the body of `sow_combos` translated from the source, at the instance `swOps`.
-/
namespace Lc
open Gen Crop Core Refine

/-- combos and cases are the two halves of a `Core.Sweep`, the parsers are the identity on already parsed values,
`sorted(combos, key=name)` is `Crop.sortByName`; both halves count as given (`combosTruthy`, `casesTruthy` are `true`,
whereas Python's empty tuple is falsy): the instance speaks of sweeps with combos and at least one case row -/
def swOps : LcOps Sweep Sweep Unit Unit where
  noneC := {}
  noneK := {}
  noneA := ()
  parseCombos := id
  parseCases := fun k _ => k
  parseFnArgs := id
  parseConstants := id
  sortByName := Crop.sortByName
  combosTruthy := fun _ => true
  combosProd := fun s => ((product s.comboVals).length : Nat)
  casesTruthy := fun _ => true
  casesLen := fun s => ((s.caseRows.getD [[]]).length : Nat)
  genFnArgs := fun _ _ => ()
  genCases := fun _ c => c

theorem locs_length (s : Sweep) : s.locs.length = (s.caseRows.getD [[]]).length * (product s.comboVals).length := by
  unfold Sweep.locs
  induction (s.caseRows.getD [[]]) with
  | nil => simp
  | cons r rs ih => simp [List.flatMap_cons, ih, Nat.succ_mul, Nat.add_comm]

theorem sortByName_caseRows (s : Sweep) : (Crop.sortByName s).caseRows = s.caseRows := rfl

theorem headAttr_sowAttrs (o : Obj) (shArg bs nb : Option Nat) :
    headAttr (ofNat? bs) (ofNat? o.bs) = ofNat? (sowAttrs o true shArg bs nb).bs ∧
    headAttr (ofNat? nb) (ofNat? o.nb) = ofNat? (sowAttrs o true shArg bs nb).nb ∧
    headAttr (ofNat? shArg) (some (o.shuffle : Int)) = some (((sowAttrs o true shArg bs nb).shuffle : Nat) : Int) ∧
    (sowAttrs o true shArg bs nb).rem = o.rem := by
  cases shArg <;> cases bs <;> cases nb <;> simp [headAttr, sowAttrs, ofNat?]

/-- **`Crop.opSow` is the translated `sow_combos`** (at `swOps`, for `combos = true`, no runner, no constants, no effect
failing): when the model's sow is accepted, the translated body returns; the batch settings it leaves on the object and writes to the info
file are the model's `Info` (read as naturals), the combos written and handed to the Sower's runner are the model's sweep
in name order, and the shuffle written and handed to the runner is the model's recorded shuffle. -/
theorem opSow_refines_lc {β} (P : Perms) (s s' : St β) (sw : Sweep) (shArg bs nb : Option Nat) (saveFn fIN : Bool)
    (h : opSow P s sw true shArg bs nb = .ok s') :
    ∃ (d : Dir β) (info : Info) (bs' nb' : Int) (rem' : Option Int),
      s'.dir = some d ∧ d.info = some info ∧ info.sweep = Crop.sortByName sw ∧
      info.bs = bs'.toNat ∧ info.nb = nb'.toNat ∧ info.rem = (rem'.getD 0).toNat ∧
      info.shuffle = (sowAttrs s.obj true shArg bs nb).shuffle ∧
      sowCombosLc swOps (fun _ => false) sw sw [] (ofNat? shArg) (ofNat? bs) (ofNat? nb) saveFn fIN false [] []
          (ofNat? s.obj.bs) (ofNat? s.obj.nb) (ofNat? s.obj.rem) (some (s.obj.shuffle : Int)) none [] =
        (([.parse .combos, .parse .cases, .parse .constants] ++
            sowWrites saveFn fIN
              (infoOf (Crop.sortByName sw) sw () (some bs') (some nb') rem' (some (info.shuffle : Int)) (some []))
              { runner := .comboRunnerCore, combos := Crop.sortByName sw, cases := sw, fnArgs := (), constants := [],
                shuffle := some ((runnerShuffle true shArg (sowAttrs s.obj true shArg bs nb) : Nat) : Int), parse := true },
          some bs', some nb', rem', some (info.shuffle : Int), some []), none) := by
  obtain ⟨hb, hn, hs, hr⟩ := headAttr_sowAttrs s.obj shArg bs nb
  unfold opSow at h
  simp only [if_true] at h
  -- the model's choice is the translated choose_batch_settings
  have hch := chooseBatch_refines true (product (Crop.sortByName sw).comboVals).length true
    ((Crop.sortByName sw).caseRows.getD [[]]).length (sowAttrs s.obj true shArg bs nb).bs (sowAttrs s.obj true shArg bs nb).nb
    (sowAttrs s.obj true shArg bs nb).rem
  simp only [if_true] at hch
  rw [← locs_length] at hch
  rw [hch] at h
  have hlc := sowCombos_refines swOps (fun _ => false) sw sw [] (ofNat? shArg) (ofNat? bs) (ofNat? nb) saveFn fIN false [] []
    (ofNat? s.obj.bs) (ofNat? s.obj.nb) (ofNat? s.obj.rem) (some (s.obj.shuffle : Int)) none []
  rw [hlc]
  unfold sowCombosSpec
  rw [thenK_ok (by simp)]
  simp only [swOps, id, hb, hn, hs, sortByName_caseRows] at h ⊢
  rw [← hr]
  cases hc : chooseBatchSettings true (↑(product (Crop.sortByName sw).comboVals).length) true (↑(sw.caseRows.getD [[]]).length)
      (ofNat? (sowAttrs s.obj true shArg bs nb).bs) (ofNat? (sowAttrs s.obj true shArg bs nb).nb)
      (ofNat? (sowAttrs s.obj true shArg bs nb).rem) with
  | error e => rw [hc] at h; cases e <;> simp [cfgOf] at h
  | ok v =>
    obtain ⟨b, k, r⟩ := v
    rw [hc] at h
    cases b with
    | none => simp [cfgOf] at h
    | some b =>
      cases k with
      | none => simp [cfgOf] at h
      | some k =>
        simp only [cfgOf] at h
        cases h
        refine ⟨_, _, b, k, r, rfl, rfl, rfl, rfl, rfl, rfl, rfl, ?_⟩
        simp only [sowTail, sowKwargs, Bool.false_eq_true, if_false, runnerShuffle_eq_recorded]
        rw [thenK_ok (by intro e _; rfl)]
        simp [sowWrites]

/-- non-vacuity: the model accepts a sow of 2 × 3 combos with batchsize 4 under shuffle seed 3 -/
example : (match opSow Crop.exP ({} : St Nat) Crop.exSw true (some 3) (some 4) none with
    | .ok s' => s'.obj.nb == some 2
    | .error _ => false) = true := by decide

end Lc
